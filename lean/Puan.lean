import Puan.Model.Sha256
import Puan.Model.Tree
import Puan.Model.Eval
import Puan.Model.Build
import Puan.Model.Encode
import Puan.Model.Ast
import Puan.Model.Poly
import Puan.Model.Bridge
import Puan.Model.Prio
import Puan.Model.Hist
import Puan.Model.Lex
import Puan.Model.Solve
import Puan.Model.Config
import Puan.Model.Errors
import Puan.Model.Json
import Puan.Model.B64
import Puan.Model.Cic
import Puan.Lemmas.Tree
import Puan.Lemmas.List
import Puan.Lemmas.Reach
import Puan.Lemmas.SafeBuild
import Puan.Lemmas.Shadow
import Puan.Lemmas.Comb
import Puan.Lemmas.Eval
import Puan.Props.C03
import Puan.Lemmas.Encode
import Puan.Lemmas.Negate
import Puan.Props.C01
import Puan.Props.C02
import Puan.Props.C05
import Puan.Lemmas.Assume
import Puan.Lemmas.Reduce
import Puan.Props.C06
import Puan.Props.C07
import Puan.Props.C08
import Puan.Lemmas.Build
import Puan.Lemmas.CcAny
import Puan.Lemmas.Ctor
import Puan.Lemmas.Json
import Puan.Props.C04
import Puan.Lemmas.Poly
import Puan.Lemmas.Mask
import Puan.Props.C11
import Puan.Props.C12
import Puan.Props.C19
import Puan.Props.C20
import Puan.Props.C13
import Puan.Props.C09
import Puan.Props.C14
import Puan.Props.C15
import Puan.Props.C18
import Puan.Props.C10
import Puan.Props.C16
import Puan.Props.C17
