/-
  `assume A` followed by evaluation on `I` is evaluation on `A ∪ I` (`evalB_assume`), through the pruning and
  re-sorting that `assume` performs on the stored children (`stored_sums`).
-/
import Puan.Lemmas.Eval
namespace Puan
namespace P

theorem assume_prune (A I : Interp) : ∀ k : P, (k.isLeaf = false → I k.id = none) →
    assume I (prune A k) = assume I k
  | .leaf i b, _ => rfl
  | .node i b s v ks m, h => by
      simp only [prune]; split
      · rename_i hc
        simp only [Bool.and_eq_true, Bnd.isConst, beq_iff_eq] at hc
        simp [assume, show I i = none from h rfl, hc.2]
      · rfl

theorem isLeaf_false_of_assume (A : Interp) : ∀ k : P, (assume A k).isLeaf = false → k.isLeaf = false
  | .leaf .., h => h
  | .node .., _ => rfl

/-- on an `I` that interprets no compound child, the stored (pruned, re-sorted) children give the same interval sums -/
theorem stored_sums (A I : Interp) (s : Int) (ks : List P)
    (h : ∀ k ∈ ks, k.isLeaf = false → I k.id = none) :
    sumLo s (assumeL I (sortById ((assumeL A ks).map (prune A)))) = sumLo s (assumeL I (assumeL A ks)) ∧
    sumHi s (assumeL I (sortById ((assumeL A ks).map (prune A)))) = sumHi s (assumeL I (assumeL A ks)) := by
  have e : ∀ k ∈ ks, assume I (prune A (assume A k)) = assume I (assume A k) := fun k hk =>
    assume_prune A I _ fun hl => assume_id A k ▸ h k hk (isLeaf_false_of_assume A k hl)
  simp only [assumeL_eq_map, sumLo_perm s ((sortById_perm _).map _), sumHi_perm s ((sortById_perm _).map _),
    List.map_map]
  exact sums_congr s fun k hk => congrArg bnd (e k hk)

mutual
/-- `I` interprets only leaves that `A` left open, with values inside their declared bounds -/
def Rest (A I : Interp) : P → Prop
  | .leaf i b => (A i ≠ none → I i = none) ∧ (A i = none → ((I i).getD b).sub b)
  | .node i _ _ _ ks _ => I i = none ∧ RestL A I ks
def RestL (A I : Interp) : List P → Prop
  | [] => True
  | k :: ks => Rest A I k ∧ RestL A I ks
end

@[simp] theorem RestL_iff (A I) (ks : List P) : RestL A I ks ↔ ∀ k ∈ ks, Rest A I k :=
  forall_of_rec Iff.rfl (fun _ _ => Iff.rfl) ks

theorem rest_node (A I : Interp) : ∀ k, Rest A I k → k.isLeaf = false → I k.id = none
  | .leaf .., _, h => nomatch h
  | .node .., h, _ => h.1

theorem union_none (A I : Interp) (i) (h : I i = none) : Interp.union A I i = A i := by
  simp only [Interp.union]; cases A i <;> simp [h]

theorem rest_refines (A I) : ∀ p, Rest A I p → Refines A (Interp.union A I) p := by
  intro p; induction p with
  | leaf i b =>
      intro h
      simp only [Refines, Interp.union]
      cases hA : A i with
      | none => simpa [hA] using h.2 hA
      | some a => simp [Bnd.sub]
  | node i b s v ks m ih =>
      simp only [Rest, RestL_iff, Refines, RefinesL_iff]
      exact fun h => ⟨union_none A I i h.1, fun k hk => ih k hk (h.2 k hk)⟩

theorem sub_const_eq (b c : Bnd) (hc : c.lo = c.hi) (hw : b.wf) (hs : b.sub c) : b = c := by
  cases b; cases c; simp only [Bnd.wf, Bnd.sub, Bnd.mk.injEq] at *; omega

theorem union_wf (A I : Interp) (hA : IWf A) (hI : IWf I) : IWf (Interp.union A I) := by
  intro j bj hj; simp only [Interp.union] at hj
  cases hA' : A j with
  | none => rw [hA'] at hj; exact hI j bj hj
  | some a => rw [hA'] at hj; cases hj; exact hA j _ hA'

theorem const_stable (A J : Interp) (hJ : IWf J) (p : P) (hd : DeclWf p) (hr : Refines A J p)
    (hc : (assume A p).bnd.lo = (assume A p).bnd.hi) : (assume J p).bnd = (assume A p).bnd :=
  sub_const_eq _ _ hc (evalB_wf J hJ p hd) (assume_mono A J p hr)

/-- needs no condition on the signs -/
theorem evalB_assume (A I) (hA : IWf A) (hI : IWf I) (p : P) : DeclWf p → Rest A I p →
    (assume I (assume A p)).bnd = (assume (Interp.union A I) p).bnd := by
  induction p with
  | leaf i b =>
      intro _ h
      simp only [assume, bnd, Interp.union]
      cases hA' : A i with
      | none => simp
      | some a => simp [h.1 (by simp [hA'])]
  | node i b s v ks m ih =>
      intro hd h
      have hU := union_none A I i h.1
      -- if `A`'s computed bounds are constant they fix the re-assumed node, and `const_stable` gives the same on `A ∪ I`
      have hst := const_stable A _ (union_wf A I hA hI) _ hd (rest_refines A I _ h)
      simp only [DeclWf, DeclWfL_iff, Rest, RestL_iff] at hd h
      have hL := sums_congr s fun k hk => ih k hk (hd.2 k hk) (h.2 k hk)
      have hS := stored_sums A I s ks fun k hk => rest_node A I k (h.2 k hk)
      rw [assume_node_bnd, assume_node_bnd, hU] at hst
      rw [assume_node_bnd (A.union I), hU]
      simp only [assume]
      split
      · -- `A`'s bounds for the node are constant: it is replaced by its variable
        simp [assume, bnd, h.1]
      · rename_i hnc
        rw [assume_node_bnd, h.1, Option.getD_none]
        simp only [if_neg hnc] at hst
        split
        · -- re-assumed on `I` it comes out constant
          rename_i hc
          exact (hst hc).symm
        · simp only [assumeL_eq_map, List.map_map] at hL hS ⊢
          exact (thr_congr s v hS).trans (thr_congr s v hL)

theorem assume_evaluate (A I) (hA : IWf A) (hI : IWf I) : ∀ p, SignOk p → DeclWf p → Rest A I p →
    (assume I (assume A p)).bnd = (assume (Interp.union A I) p).bnd :=
  fun p _ => evalB_assume A I hA hI p

theorem assume_evaluateL (A I) (hA : IWf A) (hI : IWf I) (s : Int) : ∀ ks, SignOks ks → DeclWfL ks → RestL A I ks →
    sumLo s (assumeL I (assumeL A ks)) = sumLo s (assumeL (Interp.union A I) ks) ∧
    sumHi s (assumeL I (assumeL A ks)) = sumHi s (assumeL (Interp.union A I) ks) := by
  simp only [DeclWfL_iff, RestL_iff, assumeL_eq_map, List.map_map]
  exact fun ks _ h2 h3 => sums_congr s fun k hk => evalB_assume A I hA hI k (h2 k hk) (h3 k hk)

end P
end Puan
