/-
  Masks of `reduce` and of the loop of `reducable_rows_and_columns`.  A column mask has `none` for a free
  column and `some a` for one forced to `a`; a row mask has `true` for a dropped row.  `keep` / `keepRows`
  select by a mask (`removed`: what a row mask drops), `merge` fills the forced values back in, `scatter` /
  `scatterRows` compose a mask with one over what it leaves.  `InBox`, `Agrees` and `BoundsOk` are each `All2`
  of an entrywise relation, so what a mask operation does to any of them is stated once, for `All2`.
-/
import Puan.Lemmas.Poly
namespace Puan
namespace Poly

/-- the point takes the forced values of the mask (one mask entry per coordinate) -/
def Agrees : List Int → List (Option Int) → Prop
  | x :: xs, some a :: m => x = a ∧ Agrees xs m
  | _ :: xs, none :: m => Agrees xs m
  | [], [] => True
  | _, _ => False

/-- forced values lie within the column's bounds (one mask entry per column) -/
def BoundsOk : List (Option Int) → List Bnd → Prop
  | some a :: m, b :: bs => (b.lo ≤ a ∧ a ≤ b.hi) ∧ BoundsOk m bs
  | none :: m, _ :: bs => BoundsOk m bs
  | [], [] => True
  | _, _ => False

def merge : List (Option Int) → List Int → List Int
  | some a :: m, ys => a :: merge m ys
  | none :: m, y :: ys => y :: merge m ys
  | none :: _, [] => []
  | [], _ => []

def removed {α} : List Bool → List α → List α
  | true :: m, x :: xs => x :: removed m xs
  | false :: m, _ :: xs => removed m xs
  | _, _ => []

theorem agrees_iff {xs : List Int} {m : List (Option Int)} :
    Agrees xs m ↔ All2 (fun o x => ∀ a, o = some a → x = a) m xs :=
  all2_of_rec (P := fun m xs => Agrees xs m) trivial
    (fun o _ _ _ => by
      cases o <;> simp only [Agrees, Option.some.injEq, forall_eq', reduceCtorEq, false_imp_iff, implies_true, true_and])
    (fun _ _ h => h) (fun o _ h => by cases o <;> exact h) m xs

theorem boundsOk_iff {m : List (Option Int)} {bs : List Bnd} :
    BoundsOk m bs ↔ All2 (fun o b => ∀ a, o = some a → b.lo ≤ a ∧ a ≤ b.hi) m bs :=
  all2_of_rec trivial
    (fun o _ _ _ => by
      cases o <;> simp only [BoundsOk, Option.some.injEq, forall_eq', reduceCtorEq, false_imp_iff, implies_true, true_and])
    (fun _ _ h => h) (fun o _ h => by cases o <;> exact h) m bs

theorem agrees_length : ∀ (xs : List Int) (m : List (Option Int)), Agrees xs m → xs.length = m.length :=
  fun _ _ h => (agrees_iff.1 h).length.symm

theorem reduce_eq (p : Poly) (rm cm) : reduce p rm cm = ⟨keep cm p.bnds, (keepRows rm p.rows).map (reduceRow cm)⟩ := rfl

theorem keep_sub {α} (m : List (Option Int)) (l : List α) : ∀ x ∈ keep m l, x ∈ l := by
  fun_induction keep m l with
  | case1 m y l ih =>
      intro x h
      rcases List.mem_cons.1 h with rfl | h
      · exact List.mem_cons_self
      · exact List.mem_cons_of_mem _ (ih x h)
  | case2 a m y l ih => intro x h; exact List.mem_cons_of_mem _ (ih x h)
  | case3 => intro x h; cases h

theorem keep_length_le {α β} (m : List (Option Int)) (l : List α) (l' : List β) (h : m.length ≤ l'.length) :
    (keep m l).length ≤ (keep m l').length := by
  fun_induction keep m l generalizing l' with
  | case1 m x l ih => cases l' with
    | nil => cases h
    | cons y l' => exact Nat.succ_le_succ (ih l' (Nat.le_of_succ_le_succ h))
  | case2 a m x l ih => cases l' with
    | nil => cases h
    | cons y l' => exact ih l' (Nat.le_of_succ_le_succ h)
  | case3 => exact Nat.zero_le _

theorem _root_.Puan.All2.keep {α β} {R : α → β → Prop} {xs ys} (h : All2 R xs ys) :
    ∀ m, All2 R (keep m xs) (keep m ys) := by
  induction h with
  | nil => intro m; rcases m with _ | ⟨_ | _, _⟩ <;> exact .nil
  | cons hxy _ ih =>
      intro m
      rcases m with _ | ⟨_ | _, m⟩
      · exact .nil
      · exact .cons hxy (ih m)
      · exact ih m

theorem inBox_keep {xs bs} (m) (h : InBox xs bs) : InBox (keep m xs) (keep m bs) :=
  inBox_iff.2 ((inBox_iff.1 h).keep m)

theorem dot_keep {xs m} (h : Agrees xs m) : ∀ cs, dot cs xs = dot (keep m cs) (keep m xs) + fixedSum m cs := by
  rw [agrees_iff] at h
  induction h with
  | nil => intro cs; cases cs <;> rfl
  | @cons o x m xs ho _ ih =>
      intro cs
      rcases cs with _ | ⟨c, cs⟩
      · cases o <;> rfl
      cases o
      · show c * x + dot cs xs = c * x + dot (keep m cs) (keep m xs) + fixedSum m cs
        rw [ih cs]; omega
      · show c * x + dot cs xs = dot (keep m cs) (keep m xs) + (c * _ + fixedSum m cs)
        rw [ih cs, ho _ rfl]; omega

theorem reduceRow_sat (r : PRow) (xs : List Int) (m : List (Option Int)) (h : Agrees xs m) :
    rowSat r xs ↔ rowSat (reduceRow m r) (keep m xs) := by
  have := dot_keep h r.cs
  simp only [rowSat, reduceRow]; omega

/-- `Q` is what a mask entry must satisfy (for `BoundsOk`: a forced value lies within the column's bounds), `R` what a
    coordinate must (for `InBox`: it lies within them) -/
theorem merge_spec {β} {Q : Option Int → β → Prop} {R : Int → β → Prop} (hQR : ∀ a y, Q (some a) y → R a y)
    {m ys} (hm : All2 Q m ys) : ∀ {zs}, All2 R zs (keep m ys) →
    All2 R (merge m zs) ys ∧ Agrees (merge m zs) m ∧ keep m (merge m zs) = zs := by
  induction hm with
  | nil => intro zs h; cases h; exact ⟨.nil, trivial, rfl⟩
  | @cons o y m ys ho _ ih =>
      intro zs h
      cases o with
      | some a => have ⟨h1, h2, h3⟩ := ih h; exact ⟨.cons (hQR a y ho) h1, ⟨rfl, h2⟩, h3⟩
      | none =>
          rcases h with _ | ⟨hz, h⟩
          have ⟨h1, h2, h3⟩ := ih h
          exact ⟨.cons hz h1, h2, congrArg _ h3⟩

theorem merge_keep {xs m} (h : Agrees xs m) : merge m (keep m xs) = xs := by
  rw [agrees_iff] at h
  induction h with
  | nil => rfl
  | @cons o x m xs ho _ ih =>
      cases o with
      | some a => exact ho a rfl ▸ congrArg (a :: ·) ih
      | none => exact congrArg (x :: ·) ih

theorem scatter_length : ∀ (f r : List (Option Int)), (scatter f r).length = f.length := by
  intro f r
  fun_induction scatter f r with
  | case1 _ _ _ ih | case2 _ _ _ ih | case3 _ ih => exact congrArg (· + 1) ih
  | case4 => rfl

theorem keep_scatter {α} (f r : List (Option Int)) (l : List α) (h : (keep f l).length ≤ r.length) :
    keep r (keep f l) = keep (scatter f r) l := by
  fun_induction scatter f r generalizing l with
  | case1 f o r ih => cases l with
    | nil => cases o <;> rfl
    | cons x l => cases o with
      | none => exact congrArg (x :: ·) (ih l (Nat.le_of_succ_le_succ h))
      | some _ => exact ih l (Nat.le_of_succ_le_succ h)
  | case2 a f r ih => cases l with
    | nil => rcases r with _ | ⟨_ | _, _⟩ <;> rfl
    | cons x l => exact ih l h
  | case3 f ih => cases l with
    | nil => rfl
    | cons x l => cases h
  | case4 r => rcases r with _ | ⟨_ | _, _⟩ <;> rfl

theorem fixedSum_scatter (f r : List (Option Int)) (cs : List Int) :
    fixedSum (scatter f r) cs = fixedSum f cs + fixedSum r (keep f cs) := by
  fun_induction scatter f r generalizing cs with
  | case1 f o r ih => cases cs with
    | nil => cases o <;> rfl
    | cons c cs => cases o with
      | none => exact ih cs
      | some b =>
          show c * b + fixedSum (scatter f r) cs = fixedSum f cs + (c * b + fixedSum r (keep f cs))
          rw [ih cs]; omega
  | case2 a f r ih => cases cs with
    | nil => rcases r with _ | ⟨_ | _, _⟩ <;> rfl
    | cons c cs =>
        show c * a + fixedSum (scatter f r) cs = c * a + fixedSum f cs + fixedSum r (keep f cs)
        rw [ih cs]; omega
  | case3 f ih => cases cs with
    | nil => rfl
    | cons c cs => exact (ih cs).trans (by rcases keep f cs with _ | _ <;> rfl)
  | case4 r => rcases r with _ | ⟨_ | _, _⟩ <;> rfl

theorem reduceRow_scatter (f r : List (Option Int)) (row : PRow) (h : (keep f row.cs).length ≤ r.length) :
    reduceRow r (reduceRow f row) = reduceRow (scatter f r) row := by
  simp only [reduceRow, keep_scatter f r row.cs h, fixedSum_scatter f r row.cs, PRow.mk.injEq, and_true]
  omega

theorem _root_.Puan.All2.scatter {β} {Q : Option Int → β → Prop} {f ys} (hf : All2 Q f ys) :
    ∀ {r}, All2 Q r (keep f ys) → All2 Q (scatter f r) ys := by
  induction hf with
  | nil => intro r _; exact .nil
  | @cons o y f ys ho _ ih =>
      intro r hr
      cases o with
      | some a => exact .cons ho (ih hr)
      | none =>
          rcases hr with _ | ⟨h, hr⟩
          exact .cons h (ih hr)

theorem _root_.Puan.All2.of_scatter {β} {Q : Option Int → β → Prop} (hQ : ∀ y, Q none y) {f r : List (Option Int)}
    {ys : List β} (h : All2 Q (scatter f r) ys) : All2 Q f ys := by
  fun_induction scatter f r generalizing ys with
  | case1 f o r ih => rcases h with _ | ⟨_, t⟩; exact .cons (hQ _) (ih t)
  | case2 a f r ih | case3 f ih => rcases h with _ | ⟨h, t⟩; exact .cons h (ih t)
  | case4 => exact h

theorem keepRows_sub {α} (m : List Bool) (l : List α) : ∀ x ∈ keepRows m l, x ∈ l := by
  fun_induction keepRows m l with
  | case1 m y l ih =>
      intro x h
      rcases List.mem_cons.1 h with rfl | h
      · exact List.mem_cons_self
      · exact List.mem_cons_of_mem _ (ih x h)
  | case2 m y l ih => intro x h; exact List.mem_cons_of_mem _ (ih x h)
  | case3 => intro x h; cases h

theorem mem_keepRows_or_removed {α} (m : List Bool) : ∀ (l : List α), m.length = l.length →
    ∀ x ∈ l, x ∈ keepRows m l ∨ x ∈ removed m l := by
  induction m with
  | nil => intro l hl x h; cases l with | nil => cases h | cons _ _ => cases hl
  | cons b m ih =>
      intro l hl x h
      rcases l with _ | ⟨y, l⟩
      · cases h
      have ih := ih l (Nat.succ.inj hl) x
      cases b <;> rcases List.mem_cons.1 h with rfl | h
      · exact .inl List.mem_cons_self
      · exact (ih h).imp_left (List.mem_cons_of_mem _)
      · exact .inr List.mem_cons_self
      · exact (ih h).imp_right (List.mem_cons_of_mem _)

theorem scatterRows_length (f r : List Bool) : (scatterRows f r).length = f.length := by
  fun_induction scatterRows f r with
  | case1 _ _ _ ih | case2 _ _ ih | case3 _ ih => exact congrArg (· + 1) ih
  | case4 => rfl

theorem keepRows_scatter {α} (f r : List Bool) (l : List α) (h : (keepRows f l).length ≤ r.length) :
    keepRows r (keepRows f l) = keepRows (scatterRows f r) l := by
  fun_induction scatterRows f r generalizing l with
  | case1 f b r ih => cases l with
    | nil => cases b <;> rfl
    | cons x l => cases b with
      | false => exact congrArg (x :: ·) (ih l (Nat.le_of_succ_le_succ h))
      | true => exact ih l (Nat.le_of_succ_le_succ h)
  | case2 f r ih => cases l with
    | nil => rcases r with _ | ⟨_ | _, _⟩ <;> rfl
    | cons x l => exact ih l h
  | case3 f ih => cases l with
    | nil => rfl
    | cons x l => cases h
  | case4 r => rcases r with _ | ⟨_ | _, _⟩ <;> rfl

theorem keepRows_map {α β} (g : α → β) (m : List Bool) : ∀ (l : List α), keepRows m (l.map g) = (keepRows m l).map g := by
  induction m with
  | nil => intro l; cases l <;> rfl
  | cons b m ih =>
      intro l
      rcases l with _ | ⟨x, l⟩
      · cases b <;> rfl
      cases b
      · exact congrArg (g x :: ·) (ih l)
      · exact ih l

theorem removed_map {α β} (g : α → β) : ∀ (m : List Bool) (l : List α), removed m (l.map g) = (removed m l).map g := by
  intro m
  induction m with
  | nil => intro l; cases l <;> rfl
  | cons b m ih =>
      intro l
      rcases l with _ | ⟨x, l⟩
      · cases b <;> rfl
      cases b
      · exact ih l
      · exact congrArg (g x :: ·) (ih l)

theorem forall_removed {α} {P : α → Prop} {m : List Bool} {l : List α} (hl : m.length = l.length) :
    (∀ x ∈ removed m l, P x) ↔ All2 (fun b x => b = true → P x) m l := by
  induction m generalizing l with
  | nil => cases l with | nil => exact ⟨fun _ => .nil, fun _ _ h => nomatch h⟩ | cons _ _ => cases hl
  | cons b m ih =>
      rcases l with _ | ⟨y, l⟩
      · cases hl
      have ih := ih (l := l) (Nat.succ.inj hl)
      cases b
      · exact ih.trans (by simp)
      · exact List.forall_mem_cons.trans ((and_congr_right fun _ => ih).trans (by simp))

theorem _root_.Puan.All2.scatterRows {β} {Q : Bool → β → Prop} {f ys} (hf : All2 Q f ys) :
    ∀ {r}, All2 Q r (keepRows f ys) → All2 Q (scatterRows f r) ys := by
  induction hf with
  | nil => intro r _; exact .nil
  | @cons b y f ys hb _ ih =>
      intro r hr
      cases b with
      | true => exact .cons hb (ih hr)
      | false =>
          rcases hr with _ | ⟨h, hr⟩
          exact .cons h (ih hr)

theorem keep_nones {α β} (l' : List β) : ∀ (l : List α), l.length ≤ l'.length → keep (l'.map fun _ => none) l = l := by
  induction l' with
  | nil => intro l h; cases l with | nil => rfl | cons _ _ => cases h
  | cons _ l' ih => intro l h; cases l with
    | nil => rfl
    | cons x l => exact congrArg (x :: ·) (ih l (Nat.le_of_succ_le_succ h))

theorem fixedSum_nones {β} (l' : List β) : ∀ (cs : List Int), fixedSum (l'.map fun _ => none) cs = 0 := by
  induction l' with
  | nil => intro cs; rfl
  | cons _ l' ih => intro cs; cases cs with
    | nil => rfl
    | cons _ cs => exact ih cs

theorem keepRows_falses {α} : ∀ (l : List α), keepRows (l.map fun _ => false) l = l
  | [] => rfl
  | x :: l => congrArg (x :: ·) (keepRows_falses l)

theorem removed_falses {α} : ∀ (l : List α), removed (l.map fun _ => false) l = []
  | [] => rfl
  | _ :: l => removed_falses l

theorem _root_.Puan.All2.nones {α β} {Q : Option Int → β → Prop} (hQ : ∀ y, Q none y) : ∀ {l : List α} {ys : List β},
    l.length = ys.length → All2 Q (l.map fun _ => none) ys
  | [], [], _ => .nil
  | _ :: _, y :: _, h => .cons (hQ y) (All2.nones hQ (Nat.succ.inj h))

end Poly
end Puan
