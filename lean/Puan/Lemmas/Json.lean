/-
  The parts of the JSON codec that proofs would otherwise unfold: the list functions of `toJson` are maps, `toAstL` reads
  a list member by member, `toJsonNeg` has the two forms of `negate_node`, and what `toJson` writes for a defaulted
  `cc.Any` / `cc.Xor` is one node over the JSON of the alternatives.  (The class dispatch of `toJson` and `PJ.toAst` has
  no lemmas: C16 opens it by `simp` with the class at hand.)
-/
import Puan.Model.Json
import Puan.Lemmas.CcAny
namespace Puan
open P

namespace P

theorem toJsonL_eq : ∀ ks : List P, toJsonL ks = ks.map toJson :=
  map_of_rec (by rw [toJsonL]) fun _ _ => by rw [toJsonL]

theorem toJsonSorted_eq (ks : List P) : toJsonSorted ks = toJsonL ks :=
  (map_of_rec (by rw [toJsonSorted]) (fun _ _ => by rw [toJsonSorted]) ks).trans (toJsonL_eq ks).symm

theorem negJsonComps_eq : ∀ ks : List P, negJsonComps ks = (comps ks).map toJsonNeg
  | [] => by rw [negJsonComps]; rfl
  | .leaf _ _ :: ks => by rw [negJsonComps, negJsonComps_eq ks]; rfl
  | .node .. :: ks => by rw [negJsonComps, negJsonComps_eq ks]; rfl

theorem toJsonL_length (ks : List P) : (toJsonL ks).length = ks.length := by rw [toJsonL_eq, List.length_map]

theorem toJson_leaf (a : P) (h : a.isLeaf = true) : toJson a = leafJ a.id a.bnd := by
  cases a with
  | leaf => rw [toJson]; rfl
  | node => cases h

theorem toJson_negGroup (as : List P) (h : ∀ a ∈ as, a.isLeaf = true) :
    toJson (negGroup as) = groupJ (as.map fun a => leafJ a.id a.bnd) := by
  rw [negGroup, toJson, toJsonL_eq, List.map_congr_left fun a ha => toJson_leaf a (h a ha)]
  rfl

/-- `toJsonNeg` follows `negate_node`; the children are written in the order held, not re-sorted: the reader sorts -/
theorem toJsonNeg_node (i b s v ks m) : toJsonNeg (.node i b s v ks m) =
    match negPush s v ks with
    | some ex => .node (some "AtLeast") (idJ i m) (some (1 - v + (((comps ks).length : Int) + ex.length)))
        (signJ 1 (1 - v + (((comps ks).length : Int) + ex.length))) true (negJsonComps ks ++ toJsonL ex) none none none []
    | none => .node (some "AtLeast") (idJ i m) (some (1 - v)) (signJ (-s) (1 - v)) true (toJsonL ks) none none none [] := by
  have hat : ∀ a ∈ (sortById ks).filter (·.isLeaf), a.isLeaf = true := fun a ha => (List.mem_filter.1 ha).2
  simp only [toJsonNeg, toJsonSorted_eq]
  refine negPush_cases s v ks (fun ex => PJ.node (some "AtLeast") (idJ i m) (some (1 - v + (((comps ks).length : Int) + ex.length)))
    (signJ 1 (1 - v + (((comps ks).length : Int) + ex.length))) true (negJsonComps ks ++ toJsonL ex) none none none []) ?_ ?_ ?_
  · simp only [comps, idJ, toJsonL, List.length_nil, List.append_nil, Int.natCast_zero, Int.add_zero]
  · simp only [comps, idJ, toJsonL, toJson_negGroup _ hat]; rfl
  · simp only [comps, idJ, List.length_map, toJsonL_eq, List.map_map]
    congr 2
    exact List.map_congr_left fun a ha => (toJson_negGroup [a] (by simpa using hat a ha)).symm

theorem idJ_getD (oid : Option String) (g : String) (m : Meta) (h : m.gen = oid.isNone) : idJ (oid.getD g) m = oid := by
  cases oid <;> simp [idJ, h]

/-- the hypothesis is what `pair_cases` yields for the children of an `Imply`; `c` = where the negated condition `k` stands -/
theorem imply_json {l : List P} {k d : P} {c : Nat} (h : (l = [k, d] ∧ c = 0) ∨ (l = [d, k] ∧ c = 1)) :
    negNth l c = some (toJsonNeg k) ∧ jsonOther l c = some (toJson d) := by
  rcases h with ⟨rfl, rfl⟩ | ⟨rfl, rfl⟩ <;> simp [negNth, jsonOther, toJsonL]

/-- `to_json` of a defaulted `cc.Any` (no alternative tagged, at most one item with the first default's id) shows the
    alternatives in some order: the helper's children in place of the helper -/
theorem toJson_mkCcAny (args : List (Bool × P)) (d : String × Bnd) (ds) (oid)
    (hun : ∀ k ∈ args.map (·.2), k.mt.prio = none) (hone : (args.filter (fun x => x.2.isLeaf && x.2.id == d.1)).length ≤ 1) :
    ∃ X : List P, X.Perm (args.map (·.2)) ∧ toJson (mkCcAny args (d :: ds) oid) =
      .node (some "Any") oid none none true (toJsonL X) none none none (d :: ds) := by
  rw [mkCcAny_node]
  by_cases hA : ccArgs args (d :: ds) = args
  · refine ⟨_, sortArgs_perm args, ?_⟩
    have hany : (sortById (orderArgs args)).any (fun k => k.mt.prio.isSome) = false :=
      List.any_eq_false.2 fun k hk => by rw [hun k ((sortArgs_perm args).mem_iff.1 hk)]; exact Bool.false_ne_true
    rw [hA]
    simp only [toJson, idJ_getD, hany, Bool.false_eq_true, and_false, if_false]
  · obtain ⟨d1, b, ds', hd, hdef, e⟩ := ccArgs_restructured hA
    cases hd
    obtain ⟨x, hx⟩ : ∃ x, args.filter (fun x => x.2.isLeaf && x.2.id == d1) = [x] :=
      List.length_eq_one_iff.1 (Nat.le_antisymm hone (List.length_pos_iff.2 hdef))
    obtain ⟨xf, xp⟩ := x
    have hxl : xp.isLeaf = true := by
      have hm : (xf, xp) ∈ args.filter (fun x => x.2.isLeaf && x.2.id == d1) := hx ▸ List.mem_cons_self
      exact (Bool.and_eq_true_iff.1 (List.mem_filter.1 hm).2).1
    refine ⟨xp :: sortById (orderArgs (args.filter (fun x => !(x.2.isLeaf && x.2.id == d1)))), ?_, ?_⟩
    · have := (List.filter_append_perm (fun x : Bool × P => x.2.isLeaf && x.2.id == d1) args).map (·.2)
      rw [hx] at this
      exact (List.Perm.cons xp (sortArgs_perm _)).trans this
    · rw [e, hx]
      have hks := List.perm_pair (sortArgs_perm ([(xf, xp)] ++ [(false, ccHelper args d1)]))
      cases xp with
      | node => cases hxl
      | leaf xi xb =>
          rcases hks with e | e <;> rw [e, ccHelper, mkAny_eq] <;> simp [toJson, idJ_getD, ccAnyProps, toJsonL, mt, setPrio]

/-- `to_json` of a defaulted `cc.Xor` shows the children of its "at most one" half -/
theorem toJson_mkCcXor (args : List (Bool × P)) (d ds oid) : toJson (mkCcXor args (d :: ds) oid) =
    .node (some "Xor") oid none none true (toJsonL (sortById (orderArgs args))) none none none (d :: ds) := by
  obtain ⟨ks, hp, e⟩ := mkCcXor_node args d ds oid
  rw [e]
  rcases List.perm_pair hp with e | e <;> rw [e, mkCcAny_node, mkAtMost_eq] <;> simp [toJson, idJ_getD, kidsOfAtMost]

end P

namespace PJ
variable {cfg : Bool}

theorem toAst_leafJ (i : String) (b : Bnd) : toAst cfg (leafJ i b) = some (.var i b) := by
  unfold leafJ
  split
  · rename_i h; cases b; simp only at h; simp [toAst, h.1, h.2]
  · simp [toAst]

theorem toAstL_cons (j : PJ) (js : List PJ) :
    toAstL cfg (j :: js) = (toAst cfg j).bind fun a => (toAstL cfg js).map (a :: ·) := by
  rw [toAstL]; cases toAst cfg j <;> cases toAstL cfg js <;> rfl

theorem toAstL_map {α} {j : α → PJ} {f : α → Ast} : ∀ l : List α, (∀ x ∈ l, toAst cfg (j x) = some (f x)) →
    toAstL cfg (l.map j) = some (l.map f)
  | [], _ => rfl
  | x :: l, h => by
      rw [List.map_cons, toAstL_cons, h x (List.mem_cons_self ..), toAstL_map l fun y hy => h y (List.mem_cons_of_mem _ hy)]; rfl

/-- a list whose members read back is read back member by member: as `l.map f`, so that what is known of each member
    reaches the list through `List.map` -/
theorem toAstL_lift {α} (j : α → PJ) {R : α → Ast → Prop} (l : List α) (h : ∀ x ∈ l, ∃ a, toAst cfg (j x) = some a ∧ R x a) :
    ∃ f : α → Ast, toAstL cfg (l.map j) = some (l.map f) ∧ ∀ x ∈ l, R x (f x) := by
  refine ⟨fun x => (toAst cfg (j x)).getD default, toAstL_map l fun x hx => ?_, fun x hx => ?_⟩
  · obtain ⟨a, ha, _⟩ := h x hx
    rw [ha]; rfl
  · obtain ⟨a, ha, hR⟩ := h x hx
    show R x ((toAst cfg (j x)).getD default)
    rw [ha]; exact hR

theorem toAstL_cons_some {j : PJ} {js : List PJ} {as : List Ast} :
    toAstL cfg (j :: js) = some as ↔ ∃ a, toAst cfg j = some a ∧ ∃ as', toAstL cfg js = some as' ∧ a :: as' = as := by
  simp only [toAstL_cons, Option.bind_eq_some_iff, Option.map_eq_some_iff]

theorem toAstL_append_some : ∀ (xs ys : List PJ) (as bs : List Ast), toAstL cfg xs = some as →
    toAstL cfg ys = some bs → toAstL cfg (xs ++ ys) = some (as ++ bs)
  | [], _, _, _, h1, h2 => by cases h1; exact h2
  | x :: xs, ys, _, bs, h1, h2 => by
      obtain ⟨a, ha, as', has', rfl⟩ := toAstL_cons_some.1 h1
      exact toAstL_cons_some.2 ⟨a, ha, _, toAstL_append_some xs ys as' bs has' h2, rfl⟩

theorem toAstL_length : ∀ (js : List PJ) (as : List Ast), toAstL cfg js = some as → as.length = js.length
  | [], _, h => by cases h; rfl
  | j :: js, _, h => by
      obtain ⟨a, _, as', has', rfl⟩ := toAstL_cons_some.1 h
      rw [List.length_cons, List.length_cons, toAstL_length js as' has']

end PJ
end Puan
