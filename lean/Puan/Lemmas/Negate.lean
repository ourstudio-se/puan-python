/-
  `negate` without its recursion.  `negate_node` says what the negation of a node is: either the node is pushed into
  (`negPush`: a positive node with a compound child whose atoms can be pushed) and becomes a positive node over the negated
  compound children (`negKids`) and what replaces the atoms (`negAtoms`), or it stays flat, sign and value flipped over
  the same children.  Everything else about `negate` is read off that equation, up to `step_negate`: one level of
  "negation is the complement" for any valuation of the sub-propositions (`evalPt σ`, `eF σ`).
-/
import Puan.Model.Build
import Puan.Lemmas.Eval
namespace Puan
namespace P

theorem leavesOf_sort_perm (ks : List P) : (leavesOf (sortById ks)).Perm (leavesOf ks) :=
  (sortById_perm ks).filter _

theorem negate_leaf (i b) : negate (.leaf i b) = .leaf i b := by simp only [negate]

theorem negPairs_eq : ∀ ks : List P, negPairs ks = (comps ks).map (fun k => (k.id, negate k))
  | [] => rfl
  | .leaf .. :: ks => by rw [negPairs]; exact negPairs_eq ks
  | .node .. :: ks => by rw [negPairs]; exact congrArg _ (negPairs_eq ks)

theorem mem_negPairs {ks : List P} {p : String × P} (h : p ∈ negPairs ks) : ∃ k ∈ ks, k.isLeaf = false ∧ p.2 = negate k := by
  rw [negPairs_eq] at h
  obtain ⟨k, hk, rfl⟩ := List.mem_map.1 h
  exact ⟨k, (mem_comps.1 hk).1, (mem_comps.1 hk).2, rfl⟩

/-- the negated compound children, in the order `negate` lists them -/
def negKids (ks : List P) : List P :=
  (sortPairs ((comps ks).map fun k => (k.id, negate k))).map (·.2)

/-- what `negate` puts in place of the atoms `as` of a node of value `v` that it pushes into: nothing for no atoms, one
    group `-Σ as ≥ 0` for value 1 over non-negative atoms, a group per atom for boolean atoms; `none` if it cannot push -/
def negAtoms (v : Int) (as : List P) : Option (List P) :=
  if as = [] then some []
  else if v = 1 ∧ as.all (fun a => decide (0 ≤ a.bnd.lo)) then some [negGroup as]
  else if as.all (fun a => a.bnd.lo == 0 && a.bnd.hi == 1) then some (as.map fun a => negGroup [a])
  else none

def negPush (s v : Int) (ks : List P) : Option (List P) :=
  if s = 1 ∧ (ks.filter (fun k => !k.isLeaf)).length ≠ 0 then negAtoms v ((sortById ks).filter (·.isLeaf)) else none

def negId (i : String) (s v : Int) (ks : List P) (m : Meta) : String :=
  if m.gen then genId (sortById ks) (1 - v) (some (-s)) else i

def negBnd (b : Bnd) (m : Meta) : Bnd :=
  if m.gen then ⟨0, 1⟩ else if b.lo = b.hi then ⟨1 - b.hi, 1 - b.lo⟩ else b

theorem negId_explicit {i s v ks} {m : Meta} (h : m.gen = false) : negId i s v ks m = i := by rw [negId, h]; rfl

/-- the negation's own variable is fixed exactly when an explicitly named node's was; then 0 and 1 change places -/
theorem negBnd_fixed_iff (b : Bnd) (m : Meta) : (negBnd b m).lo = (negBnd b m).hi ↔ m.gen = false ∧ b.lo = b.hi := by
  by_cases hg : m.gen = true
  · simp [negBnd, hg]
  · by_cases hc : b.lo = b.hi
    · simp [negBnd, hg, hc]
    · simp [negBnd, hg, hc]

theorem negBnd_of_fixed {b : Bnd} {m : Meta} (h : m.gen = false ∧ b.lo = b.hi) : negBnd b m = ⟨1 - b.hi, 1 - b.lo⟩ := by
  rw [negBnd, h.1, if_neg Bool.false_ne_true, if_pos h.2]

/-- The case analysis of `negate`, once, for a function with any result that goes through `negate`'s four tests and, where
    `negate` pushes inwards, depends only on what replaces the atoms (`negate` itself, `toJsonNeg`).  `negPush` is written
    with the filters of the model so that the tests are the model's word for word; cases before unfolding: `split` on the
    unfolded nested `if`s is several times dearer to check. -/
theorem negPush_cases {α} (s v : Int) (ks : List P) (F : List P → α) {A B C D : α} (hA : A = F [])
    (hB : B = F [negGroup ((sortById ks).filter (·.isLeaf))])
    (hC : C = F (((sortById ks).filter (·.isLeaf)).map fun a => negGroup [a])) :
    (if s = 1 ∧ (ks.filter (fun k => !k.isLeaf)).length ≠ 0 then
      if (sortById ks).filter (·.isLeaf) = [] then A
      else if v = 1 ∧ ((sortById ks).filter (·.isLeaf)).all (fun a => decide (0 ≤ a.bnd.lo)) then B
      else if ((sortById ks).filter (·.isLeaf)).all (fun a => a.bnd.lo == 0 && a.bnd.hi == 1) then C
      else D
    else D) = match negPush s v ks with | some ex => F ex | none => D := by
  subst hA hB hC
  by_cases h1 : s = 1 ∧ (ks.filter (fun k => !k.isLeaf)).length ≠ 0
  · rw [if_pos h1, negPush, if_pos h1, negAtoms]
    by_cases h2 : (sortById ks).filter (·.isLeaf) = []
    · rw [if_pos h2, if_pos h2]
    · rw [if_neg h2, if_neg h2]
      by_cases h3 : v = 1 ∧ ((sortById ks).filter (·.isLeaf)).all (fun a => decide (0 ≤ a.bnd.lo))
      · rw [if_pos h3, if_pos h3]
      · rw [if_neg h3, if_neg h3]
        by_cases h4 : ((sortById ks).filter (·.isLeaf)).all (fun a => a.bnd.lo == 0 && a.bnd.hi == 1)
        · rw [if_pos h4, if_pos h4]
        · rw [if_neg h4, if_neg h4]
  · rw [if_neg h1, negPush, if_neg h1]

theorem negate_node (i b s v ks m) : negate (.node i b s v ks m) =
    match negPush s v ks with
    | some ex => .node (negId i s v ks m) (negBnd b m) 1 (1 - v + (((comps ks).length : Int) + ex.length))
        (negKids ks ++ ex) { gen := m.gen }
    | none => .node (negId i s v ks m) (negBnd b m) (-s) (1 - v) (sortById ks) { gen := m.gen } := by
  simp only [negate, negPairs_eq, negFlat]
  refine negPush_cases s v ks (fun ex => P.node (negId i s v ks m) (negBnd b m) 1 (1 - v + (((comps ks).length : Int) + ex.length))
    (negKids ks ++ ex) { gen := m.gen }) ?_ ?_ ?_
  · simp only [negKids, comps, negId, negBnd, List.length_nil, List.append_nil, Int.natCast_zero, Int.add_zero]
  · simp only [negKids, comps, negId, negBnd]; rfl
  · simp only [negKids, comps, negId, negBnd, List.length_map]

theorem negPush_some {s v ks ex} (h : negPush s v ks = some ex) :
    s = 1 ∧ comps ks ≠ [] ∧ negAtoms v (leavesOf (sortById ks)) = some ex := by
  unfold negPush at h
  split at h
  · rename_i hc
    exact ⟨hc.1, fun h0 => hc.2 (congrArg List.length h0), h⟩
  · cases h

theorem negPush_none {s v ks} (h : ¬ (s = 1 ∧ comps ks ≠ [])) : negPush s v ks = none :=
  if_neg fun hc => h ⟨hc.1, fun h0 => hc.2 (congrArg List.length h0)⟩

theorem negate_flat {i b s v ks m} (h : ¬ (s = 1 ∧ comps ks ≠ [])) :
    negate (.node i b s v ks m) = .node (negId i s v ks m) (negBnd b m) (-s) (1 - v) (sortById ks) { gen := m.gen } := by
  rw [negate_node, negPush_none h]

theorem negPush_bool {v ks} (hc : comps ks ≠ []) (hb : ∀ i b, .leaf i b ∈ ks → b.lo = 0 ∧ b.hi = 1) : negPush 1 v ks ≠ none := by
  have hb' : ((sortById ks).filter (·.isLeaf)).all (fun a => a.bnd.lo == 0 && a.bnd.hi == 1) = true :=
    List.all_eq_true.2 fun a ha => by
      simpa using (forall_leavesOf (Q := fun a => a.bnd.lo = 0 ∧ a.bnd.hi = 1)).2 hb a ((leavesOf_sort_perm ks).mem_iff.1 ha)
  have hc' : (ks.filter (fun k => !k.isLeaf)).length ≠ 0 := fun h => hc (List.length_eq_zero_iff.1 h)
  rw [negPush, if_pos ⟨rfl, hc'⟩, negAtoms, if_pos hb', ← apply_ite some, ← apply_ite some]
  exact Option.some_ne_none _

theorem negate_isLeaf : ∀ p : P, (negate p).isLeaf = p.isLeaf
  | .leaf .. => by rw [negate_leaf]
  | .node .. => by rw [negate_node]; split <;> rfl

theorem negate_id (i b s v ks m) : (negate (.node i b s v ks m)).id = negId i s v ks m := by
  rw [negate_node]; split <;> rfl

theorem negate_bnd (i b s v ks m) : (negate (.node i b s v ks m)).bnd = negBnd b m := by
  rw [negate_node]; split <;> rfl

theorem negate_mt (i b s v ks m) : (negate (.node i b s v ks m)).mt = { gen := m.gen } := by
  rw [negate_node]; split <;> rfl

theorem negKids_perm (ks : List P) : (negKids ks).Perm ((comps ks).map negate) := by
  have := (List.mergeSort_perm ((comps ks).map fun k => (k.id, negate k)) (fun a b => decide (a.1 ≤ b.1))).map (·.2)
  rwa [List.map_map] at this

theorem mem_negKids {ks : List P} {k' : P} : k' ∈ negKids ks ↔ ∃ k ∈ ks, k.isLeaf = false ∧ negate k = k' := by
  simp [(negKids_perm ks).mem_iff, mem_comps, and_assoc]

theorem negAtoms_some {v as ex} (h : negAtoms v as = some ex) :
    as = [] ∧ ex = [] ∨ (v = 1 ∧ ∀ a ∈ as, 0 ≤ a.bnd.lo) ∧ ex = [negGroup as] ∨
    (∀ a ∈ as, a.bnd.lo = 0 ∧ a.bnd.hi = 1) ∧ ex = as.map fun a => negGroup [a] := by
  unfold negAtoms at h
  by_cases h1 : as = []
  · rw [if_pos h1] at h; cases h; exact .inl ⟨h1, rfl⟩
  rw [if_neg h1] at h
  by_cases h2 : v = 1 ∧ as.all (fun a => decide (0 ≤ a.bnd.lo)) = true
  · rw [if_pos h2] at h; cases h
    exact .inr (.inl ⟨⟨h2.1, fun a ha => of_decide_eq_true (List.all_eq_true.1 h2.2 a ha)⟩, rfl⟩)
  rw [if_neg h2] at h
  by_cases h3 : as.all (fun a => a.bnd.lo == 0 && a.bnd.hi == 1) = true
  · rw [if_pos h3] at h; cases h
    exact .inr (.inr ⟨fun a ha => by simpa using List.all_eq_true.1 h3 a ha, rfl⟩)
  · rw [if_neg h3] at h; cases h

theorem mem_negAtoms {v as ex} (h : negAtoms v as = some ex) {x} (hx : x ∈ ex) :
    ∃ l, (∀ a ∈ l, a ∈ as) ∧ x = negGroup l := by
  rcases negAtoms_some h with ⟨_, rfl⟩ | ⟨_, rfl⟩ | ⟨_, rfl⟩
  · cases hx
  · exact ⟨as, fun _ h => h, List.mem_singleton.1 hx⟩
  · obtain ⟨a, ha, rfl⟩ := List.mem_map.1 hx
    exact ⟨[a], fun _ h => List.mem_singleton.1 h ▸ ha, rfl⟩

/-- `hdr`: `Q` depends on a node's header only through what `negate` keeps of it: the sign stays ±1, a fixed own variable
    stays fixed to 0 or 1 and a free one free, the `gen` flag stays, the class becomes `AtLeast` -/
theorem negate_preserves {Q : P → Prop}
    (kids : ∀ {i b s v ks m}, Q (.node i b s v ks m) → ∀ k ∈ ks, Q k)
    (grp : ∀ l, (∀ a ∈ l, Q a) → Q (negGroup l))
    (hdr : ∀ {i b s v ks m} i' s' v' ks', Q (.node i b s v ks m) → (s' = 1 ∨ s' = -s) → (∀ k ∈ ks', Q k) →
      Q (.node i' (negBnd b m) s' v' ks' { gen := m.gen })) : ∀ p, Q p → Q (negate p) := by
  intro p
  induction p with
  | leaf i b => rw [negate_leaf]; exact fun h => h
  | node i b s v ks m ih =>
      intro h
      rw [negate_node]
      split
      · rename_i ex hp
        refine hdr _ _ _ _ h (Or.inl rfl) fun k hk => ?_
        rcases List.mem_append.1 hk with hk | hk
        · obtain ⟨k0, hk0, _, rfl⟩ := mem_negKids.1 hk
          exact ih k0 hk0 (kids h k0 hk0)
        · obtain ⟨l, hl, rfl⟩ := mem_negAtoms (negPush_some hp).2.2 hk
          exact grp l fun a ha => kids h a (mem_sortById.1 (mem_leavesOf.1 (hl a ha)).1)
      · exact hdr _ _ _ _ h (Or.inr rfl) fun k hk => kids h k (mem_sortById.1 hk)

/-- What replaces the atoms counts, towards the threshold, like the atoms themselves: with `c ≥ 0` from the other
    children, `c + Σ atoms` reaches `v` iff `c +` (the number of replacements that are false) does. -/
theorem negAtoms_sound (e : P → Int) {v : Int} {as ex : List P} (h : negAtoms v as = some ex)
    (ha : ∀ a ∈ as, a.bnd.lo ≤ e a ∧ e a ≤ a.bnd.hi) (hg : ∀ l, e (negGroup l) = if (l.map e).sum ≤ 0 then 1 else 0)
    {c : Int} (hc : 0 ≤ c) : c + (as.map e).sum ≥ v ↔ c + (ex.length - (ex.map e).sum) ≥ v := by
  rcases negAtoms_some h with ⟨rfl, rfl⟩ | ⟨⟨rfl, hv⟩, rfl⟩ | ⟨hb, rfl⟩
  · simp
  · have h0 := List.sum_map_nonneg (f := e) (l := as) fun a ha' => Int.le_trans (hv a ha') (ha a ha').1
    simp only [List.map_cons, List.map_nil, List.sum_cons, List.sum_nil, List.length_cons, List.length_nil, hg as]
    split <;> omega
  · -- a boolean atom's own group is its complement
    have hcompl : ∀ a ∈ as, e (negGroup [a]) = 1 - e a := fun a ha' => by
      have := hb a ha'; have := ha a ha'
      simp only [hg, List.map_cons, List.map_nil, List.sum_cons, List.sum_nil]
      split <;> omega
    rw [List.sum_map_compl hcompl, List.length_map]; omega

/-- the value of `p` computed from the values `e` of its children -/
def step (e : P → Int) : P → Int
  | .leaf i b => e (.leaf i b)
  | .node _ _ s v ks _ => if s * (ks.map e).sum ≥ v then 1 else 0

theorem sum_negKids (e : P → Int) (ks : List P) (h : ∀ k ∈ comps ks, e (negate k) = 1 - e k) :
    ((negKids ks).map e).sum = (comps ks).length - ((comps ks).map e).sum := by
  rw [((negKids_perm ks).map e).sum_int, List.sum_map_compl h]

/-- no condition on `s`: flat, `-s·Σ ≥ 1 - v` is `¬ s·Σ ≥ v` over the integers; pushed, `s = 1` -/
theorem step_negate (e : P → Int) (i b s v ks m)
    (hk : ∀ k ∈ ks, k.isLeaf = false → (e k = 0 ∨ e k = 1) ∧ e (negate k) = 1 - e k)
    (ha : ∀ i b, .leaf i b ∈ ks → b.lo ≤ e (.leaf i b) ∧ e (.leaf i b) ≤ b.hi)
    (hg : ∀ l, e (negGroup l) = if (l.map e).sum ≤ 0 then 1 else 0) :
    step e (negate (.node i b s v ks m)) = 1 - step e (.node i b s v ks m) := by
  have hk : ∀ k ∈ comps ks, _ := fun k h => hk k (mem_comps.1 h).1 (mem_comps.1 h).2
  have ha := (forall_leavesOf (Q := fun a => a.bnd.lo ≤ e a ∧ e a ≤ a.bnd.hi)).2 ha
  have hsplit := sum_leaves_comps e ks
  have hc := List.sum_map_01 (f := e) (l := comps ks) (fun k hk' => (hk k hk').1)
  rw [negate_node]
  split
  · rename_i ex hp
    obtain ⟨rfl, _, hat⟩ := negPush_some hp
    have hperm := leavesOf_sort_perm ks
    have := negAtoms_sound e hat (fun a ha' => ha a (hperm.mem_iff.1 ha')) hg hc.1
    rw [(hperm.map e).sum_int] at this
    simp only [step, List.map_append, List.sum_append_int, sum_negKids e ks (fun k hk' => (hk k hk').2), one_sub_ite]
    exact ite_of_iff (by omega) ..
  · simp only [step, ((sortById_perm ks).map e).sum_int, one_sub_ite, Int.neg_mul]
    exact ite_of_iff (by omega) ..

theorem evalPt_step (σ) : ∀ p, evalPt σ p = step (evalPt σ) p
  | .leaf .. => rfl
  | .node .. => by simp only [evalPt, step, sumPt_eq]

theorem evalPt_negGroup (σ) (l : List P) : evalPt σ (negGroup l) = if (l.map (evalPt σ)).sum ≤ 0 then 1 else 0 := by
  simp only [negGroup, evalPt, sumPt_eq]; exact ite_of_iff (by omega) ..

/-- `evaluate` on a total leaf assignment, nodes fixed by their own bounds taking that constant -/
abbrev eF (σ : String → Int) (p : P) : Int := evalOv (fun _ => none) σ p
abbrev sF (σ : String → Int) (ks : List P) : Int := sumOv (fun _ => none) σ ks

mutual
/-- fixed nodes are fixed to 0 or 1, and a node with a generated id is never fixed (its variable is the default (0,1)) -/
def FixOk : P → Prop
  | .leaf .. => True
  | .node _ b _ _ ks m => (b.lo = b.hi → (b.lo = 0 ∨ b.lo = 1) ∧ m.gen = false) ∧ FixOks ks
def FixOks : List P → Prop
  | [] => True
  | k :: ks => FixOk k ∧ FixOks ks
end

@[simp] theorem FixOks_iff (ks : List P) : FixOks ks ↔ ∀ k ∈ ks, FixOk k :=
  forall_of_rec Iff.rfl (fun _ _ => Iff.rfl) ks

theorem eF_step (σ) : ∀ p, ¬ p.bnd.lo = p.bnd.hi → eF σ p = step (eF σ) p
  | .leaf .., _ => rfl
  | .node .., h => by simp only [bnd] at h; simp only [eF, evalOv, Option.getD_none, h, if_false, step, sumOv_eq]

theorem eF01 (σ) {i b s v ks m} (h : FixOk (.node i b s v ks m)) :
    eF σ (.node i b s v ks m) = 0 ∨ eF σ (.node i b s v ks m) = 1 := by
  by_cases hc : b.lo = b.hi
  · simp only [eF, evalOv, Option.getD_none, if_pos hc]; exact (h.1 hc).1
  · simp only [eF, evalOv, Option.getD_none, if_neg hc]; split <;> simp

end P
end Puan
