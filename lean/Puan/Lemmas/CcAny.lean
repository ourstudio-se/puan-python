/-
  The configurator's choices.  `cc.Any` always builds an `Any` over a list of arguments (`ccArgs`): the alternatives as given,
  or — when the default names some but not all of at least two alternatives — the default alternative(s) plus one helper
  `Any` over the rest, tagged −2.  `cc.Xor` builds the `Xor` node and, with a default, replaces its "at least one" half by a
  `cc.Any` over that half's children.
-/
import Puan.Lemmas.Build
namespace Puan
namespace P

/-- the helper of a defaulted `cc.Any`: `Any` over the non-default alternatives, tagged −2 -/
def ccHelper (args : List (Bool × P)) (d : String) : P :=
  setPrio (mkAny (args.filter (fun x => !(x.2.isLeaf && x.2.id == d))) none) (-2)

/-- the arguments of the `Any` that `cc.Any(*args, default=dflt)` builds -/
def ccArgs (args : List (Bool × P)) : List (String × Bnd) → List (Bool × P)
  | [] => args
  | (d, _) :: _ =>
      if args.length ≤ 1 then args
      else if (args.filter (fun x => !(x.2.isLeaf && x.2.id == d))).length == args.length ||
          (args.filter (fun x => !(x.2.isLeaf && x.2.id == d))).length == 0 then args
      else args.filter (fun x => x.2.isLeaf && x.2.id == d) ++ [(false, ccHelper args d)]

theorem mkCcAny_eq (args : List (Bool × P)) (dflt) (oid) :
    mkCcAny args dflt oid = setDflt (mkAny (ccArgs args dflt) oid .ccAny) dflt := by
  rcases dflt with _ | ⟨⟨d, b⟩, ds⟩
  · rfl
  · simp only [mkCcAny, ccArgs, ccHelper, apply_ite (fun a => setDflt (mkAny a oid .ccAny) ((d, b) :: ds))]

theorem ccArgs_split (args : List (Bool × P)) (d : String) (b : Bnd) (ds)
    (h1 : ¬ args.length ≤ 1)
    (h2 : ¬ (((args.filter (fun x => !(x.2.isLeaf && x.2.id == d))).length == args.length ||
        (args.filter (fun x => !(x.2.isLeaf && x.2.id == d))).length == 0) = true)) :
    ccArgs args ((d, b) :: ds) = args.filter (fun x => x.2.isLeaf && x.2.id == d) ++ [(false, ccHelper args d)] :=
  (if_neg h1).trans (if_neg h2)

theorem ccArgs_restructured {args : List (Bool × P)} {dflt} (h : ccArgs args dflt ≠ args) : ∃ d b ds, dflt = (d, b) :: ds ∧
    args.filter (fun x => x.2.isLeaf && x.2.id == d) ≠ [] ∧
    ccArgs args dflt = args.filter (fun x => x.2.isLeaf && x.2.id == d) ++ [(false, ccHelper args d)] := by
  rcases dflt with _ | ⟨⟨d, b⟩, ds⟩
  · exact absurd rfl h
  · by_cases h1 : args.length ≤ 1
    · exact absurd (if_pos h1) h
    · by_cases h2 : ((args.filter (fun x => !(x.2.isLeaf && x.2.id == d))).length == args.length ||
          (args.filter (fun x => !(x.2.isLeaf && x.2.id == d))).length == 0) = true
      · exact absurd ((if_neg h1).trans (if_pos h2)) h
      · refine ⟨d, b, ds, rfl, fun h0 => h2 ?_, ccArgs_split args d b ds h1 h2⟩
        have := (List.filter_append_perm (fun x : Bool × P => x.2.isLeaf && x.2.id == d) args).length_eq
        rw [h0, List.nil_append] at this
        rw [this, beq_self_eq_true, Bool.true_or]

theorem ccArgs_cases (args : List (Bool × P)) (dflt) :
    ccArgs args dflt = args ∨ ∃ d b ds, dflt = (d, b) :: ds ∧
      ccArgs args dflt = args.filter (fun x => x.2.isLeaf && x.2.id == d) ++ [(false, ccHelper args d)] := by
  by_cases h : ccArgs args dflt = args
  · exact Or.inl h
  · obtain ⟨d, b, ds, hd, _, e⟩ := ccArgs_restructured h
    exact Or.inr ⟨d, b, ds, hd, e⟩

/-- for a `Q` that an `Any` has iff its arguments have it: every alternative is among `ccArgs` or among the helper's arguments -/
theorem forall_ccArgs {Q : P → Prop} (hany : ∀ l : List (Bool × P), Q (setPrio (mkAny l none) (-2)) ↔ ∀ x ∈ l, Q x.2)
    (args : List (Bool × P)) (dflt) : (∀ x ∈ ccArgs args dflt, Q x.2) ↔ ∀ x ∈ args, Q x.2 := by
  rcases ccArgs_cases args dflt with e | ⟨d, _, _, _, e⟩
  · rw [e]
  · simp only [e, ccHelper, List.mem_append, List.mem_filter, List.mem_singleton, or_imp, forall_and, forall_eq, hany]
    constructor
    · intro ⟨h1, h2⟩ x hx
      cases hd : (x.2.isLeaf && x.2.id == d)
      · exact h2 x ⟨hx, by rw [hd]; rfl⟩
      · exact h1 x ⟨hx, hd⟩
    · exact fun h => ⟨fun x hx => h x hx.1, fun x hx => h x hx.1⟩

theorem mkCcAny_node (args : List (Bool × P)) (dflt : List (String × Bnd)) (oid : Option String) :
    mkCcAny args dflt oid = .node (oid.getD (genId (sortById (orderArgs (ccArgs args dflt))) 1 none)) ⟨0, 1⟩ 1 1
      (sortById (orderArgs (ccArgs args dflt))) { cls := .ccAny, gen := oid.isNone, dflt := dflt } := by
  rw [mkCcAny_eq, mkAny_eq]; rfl

theorem evalPt_ccHelper (σ) (args : List (Bool × P)) (d) :
    evalPt σ (ccHelper args d) =
      if sumPt σ ((args.filter (fun x => !(x.2.isLeaf && x.2.id == d))).map (·.2)) ≥ 1 then 1 else 0 := by
  simp only [ccHelper, evalPt_setPrio, mkAny, evalPt_mkAtLeast, sum_orderArgs, sgnOf_one, Int.one_mul]

theorem sumPt_ccArgs (σ) (args : List (Bool × P)) (dflt) (hnn : ∀ k ∈ args.map (·.2), 0 ≤ evalPt σ k) :
    sumPt σ ((ccArgs args dflt).map (·.2)) ≥ 1 ↔ sumPt σ (args.map (·.2)) ≥ 1 := by
  rcases ccArgs_cases args dflt with h | ⟨d, _, _, _, h⟩ <;> rw [h]  -- unchanged arguments: closed by `rfl`
  have hf := fun f : Bool × P → Bool => List.sum_map_nonneg (l := args.filter f) (f := fun x => evalPt σ x.2)
    fun x hx => forall_args.1 hnn x (List.mem_filter.1 hx).1
  have h1 := hf fun x => x.2.isLeaf && x.2.id == d
  have h2 := hf fun x => !(x.2.isLeaf && x.2.id == d)
  have hs := List.sum_filter_add_not (fun x : Bool × P => x.2.isLeaf && x.2.id == d) (fun x => evalPt σ x.2) args
  simp only [sumPt_eq, List.map_append, List.map_cons, List.map_nil, List.map_map, Function.comp_def,
    List.sum_append_int, List.sum_cons, List.sum_nil, evalPt_ccHelper]
  split <;> omega

theorem replaceFirst_pair {pred : P → Bool} {f : P → P} {l : List P} {a b : P} (h : l.Perm [a, b])
    (ha : pred a = true) (hb : pred b = false) : (replaceFirst l pred f).Perm [f a, b] := by
  rcases List.perm_pair h with rfl | rfl
  · simp [replaceFirst, ha]
  · simpa [replaceFirst, ha, hb] using List.Perm.swap ..

theorem mkCcXor_nil (args : List (Bool × P)) (oid : Option String) : mkCcXor args [] oid = mkXor args oid .ccXor := by
  simp only [mkCcXor, mkXor_eq, mkAtLeast_eq, setDflt]

/-- a defaulted `cc.Xor` is the `Xor` node with a `cc.Any` over the alternatives in the place, and under the id, of the "at least
    one" half; `ks` stands for the two halves in the order of their ids -/
theorem mkCcXor_node (args : List (Bool × P)) (d ds oid) : ∃ ks : List P,
    ks.Perm [mkCcAny ((sortById (orderArgs args)).map (fun c => (false, c))) (d :: ds) (some (genId (sortById (orderArgs args)) 1 none)),
      mkAtMost 1 (orderArgs args) none] ∧
    mkCcXor args (d :: ds) oid =
      .node (oid.getD (genId (sortById [mkAtLeast 1 (orderArgs args) none none, mkAtMost 1 (orderArgs args) none]) 2 none))
        ⟨0, 1⟩ 1 2 ks { cls := .ccXor, gen := oid.isNone, dflt := d :: ds } := by
  refine ⟨_, ?_, by unfold mkCcXor; rw [mkXor_eq, mkAtLeast_eq]; cases oid <;> rfl⟩
  refine (replaceFirst_pair (sortById_perm _) (by rw [mkAtLeast_eq]; rfl) (by rw [mkAtMost_eq]; rfl)).trans ?_
  rw [mkAtLeast_kids, mkAtLeast_eq]; rfl

theorem mkCcXor_kids (args : List (Bool × P)) (d ds oid) : (mkCcXor args (d :: ds) oid).kids.Perm
    [mkCcAny ((sortById (orderArgs args)).map (fun c => (false, c))) (d :: ds) (some (genId (sortById (orderArgs args)) 1 none)),
      mkAtMost 1 (orderArgs args) none] :=
  let ⟨_, hp, e⟩ := mkCcXor_node args d ds oid
  e ▸ hp

end P
end Puan
