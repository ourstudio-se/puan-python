/-
  Integer polyhedra: row values lie between the row bounds (and attain them), single-row
  propagation is sound.
-/
import Puan.Model.Poly
import Puan.Lemmas.List
namespace Puan
namespace Poly

/-- the point lies in the variable box (and has one entry per column) -/
def InBox : List Int → List Bnd → Prop
  | x :: xs, b :: bs => (b.lo ≤ x ∧ x ≤ b.hi) ∧ InBox xs bs
  | [], [] => True
  | _, _ => False

def Sol (p : Poly) (xs : List Int) : Prop := InBox xs p.bnds ∧ ∀ r ∈ p.rows, rowSat r xs

def WfB : List Bnd → Prop
  | [] => True
  | b :: bs => b.lo ≤ b.hi ∧ WfB bs

theorem inBox_iff {xs : List Int} {bs : List Bnd} : InBox xs bs ↔ All2 (fun x b => b.lo ≤ x ∧ x ≤ b.hi) xs bs :=
  all2_of_rec trivial (fun _ _ _ _ => Iff.rfl) (fun _ _ h => h) (fun _ _ h => h) xs bs

theorem inBox_length {xs bs} (h : InBox xs bs) : xs.length = bs.length := (inBox_iff.1 h).length

theorem inBox_get {xs bs} {j : Nat} {x b} (h : InBox xs bs) (hx : xs[j]? = some x) (hb : bs[j]? = some b) :
    b.lo ≤ x ∧ x ≤ b.hi := (inBox_iff.1 h).get hx hb

theorem inBox_wf {xs bs} (h : InBox xs bs) : WfB bs := by
  rw [inBox_iff] at h
  induction h with
  | nil => trivial
  | cons h _ ih => exact ⟨Int.le_trans h.1 h.2, ih⟩

theorem term_bounds (c : Int) (b : Bnd) (x : Int) (h1 : b.lo ≤ x) (h2 : x ≤ b.hi) :
    emin c b ≤ c * x ∧ c * x ≤ emax c b := by
  unfold emin emax; rw [Int.mul_comm b.lo, Int.mul_comm b.hi]; exact mul_between c h1 h2

/-- for a non-empty interval, `A_min`/`A_max` entries are the entrywise min/max -/
theorem tminmax_eq (c : Int) (b : Bnd) (h : b.lo ≤ b.hi) : tmin c b = emin c b ∧ tmax c b = emax c b := by
  unfold tmin tmax emin emax
  rcases Int.lt_trichotomy c 0 with hc | rfl | hc
  · have := Int.mul_le_mul_of_nonpos_right h (Int.le_of_lt hc)
    simp only [gt_iff_lt, Int.lt_asymm hc, hc, if_true, if_false]; omega
  · simp
  · have := Int.mul_le_mul_of_nonneg_right h (Int.le_of_lt hc)
    simp only [gt_iff_lt, hc, if_true]; omega

theorem sumMin_eq_rbLo : ∀ (cs : List Int) (bs : List Bnd), WfB bs → sumMin cs bs = rbLo cs bs
  | [], _, _ => rfl
  | _ :: _, [], _ => rfl
  | c :: cs, b :: bs, h => by
      simp only [sumMin, rbLo, (tminmax_eq c b h.1).1, sumMin_eq_rbLo cs bs h.2]

/-- every row value lies between the reported row bounds -/
theorem dot_bounds : ∀ (cs xs : List Int) (bs : List Bnd), InBox xs bs →
    rbLo cs bs ≤ dot cs xs ∧ dot cs xs ≤ rbHi cs bs := by
  intro cs xs bs h
  rw [inBox_iff] at h
  induction h generalizing cs with
  | nil => cases cs <;> simp [dot, rbLo, rbHi]
  | cons hx _ ih =>
      cases cs with
      | nil => simp [dot, rbLo, rbHi]
      | cons c cs =>
          have := ih cs; have := term_bounds c _ _ hx.1 hx.2
          simp only [dot, rbLo, rbHi]; omega

theorem term_attained (c : Int) (b : Bnd) (h : b.lo ≤ b.hi) :
    (∃ x, (b.lo ≤ x ∧ x ≤ b.hi) ∧ c * x = emin c b) ∧ (∃ x, (b.lo ≤ x ∧ x ≤ b.hi) ∧ c * x = emax c b) := by
  have hl : b.lo ≤ b.lo ∧ b.lo ≤ b.hi := ⟨Int.le_refl _, h⟩
  have hh : b.lo ≤ b.hi ∧ b.hi ≤ b.hi := ⟨h, Int.le_refl _⟩
  unfold emin emax
  rw [Int.mul_comm b.lo, Int.mul_comm b.hi]
  by_cases hle : c * b.lo ≤ c * b.hi
  · exact ⟨⟨_, hl, by omega⟩, ⟨_, hh, by omega⟩⟩
  · exact ⟨⟨_, hh, by omega⟩, ⟨_, hl, by omega⟩⟩

theorem rb_attained : ∀ (cs : List Int) (bs : List Bnd), WfB bs →
    (∃ xs, InBox xs bs ∧ dot cs xs = rbLo cs bs) ∧ (∃ xs, InBox xs bs ∧ dot cs xs = rbHi cs bs)
  | cs, [], _ => by cases cs <;> exact ⟨⟨[], trivial, rfl⟩, ⟨[], trivial, rfl⟩⟩
  | [], b :: bs, h =>
      have ⟨⟨xs, hx, _⟩, _⟩ := rb_attained [] bs h.2
      have hb : InBox (b.lo :: xs) (b :: bs) := ⟨⟨Int.le_refl _, h.1⟩, hx⟩
      ⟨⟨_, hb, rfl⟩, ⟨_, hb, rfl⟩⟩
  | c :: cs, b :: bs, h =>
      have ⟨⟨xs, hxs, exs⟩, ⟨ys, hys, eys⟩⟩ := rb_attained cs bs h.2
      have ⟨⟨x, hx, ex⟩, ⟨y, hy, ey⟩⟩ := term_attained c b h.1
      ⟨⟨x :: xs, ⟨hx, hxs⟩, congr (congrArg _ ex) exs⟩, ⟨y :: ys, ⟨hy, hys⟩, congr (congrArg _ ey) eys⟩⟩

/-- replacing every term but the j-th by its maximum bounds the row value from above -/
theorem dot_le_except : ∀ (cs xs : List Int) (bs : List Bnd) (j : Nat) (c x : Int) (b : Bnd),
    InBox xs bs → cs[j]? = some c → xs[j]? = some x → bs[j]? = some b →
    dot cs xs ≤ rbHi cs bs - emax c b + c * x := by
  intro cs xs bs j c x b h
  rw [inBox_iff] at h
  induction h generalizing cs j with
  | nil => simp
  | @cons y e xs bs hy t ih =>
      cases cs with
      | nil => simp
      | cons d cs =>
          cases j with
          | zero =>
              simp only [List.getElem?_cons_zero, Option.some.injEq]
              rintro rfl rfl rfl
              have := (dot_bounds cs xs bs (inBox_iff.2 t)).2
              simp only [dot, rbHi]; omega
          | succ j =>
              intro h1 h2 h3
              have := ih cs j h1 h2 h3
              have := term_bounds d e y hy.1 hy.2
              simp only [dot, rbHi]; omega

/-- single-row propagation: what a satisfied row leaves for the term of column `j` -/
theorem slack_le (row : PRow) {xs : List Int} {bs : List Bnd} {j : Nat} {c x : Int} {b : Bnd}
    (hb : InBox xs bs) (hc : row.cs[j]? = some c) (hx : xs[j]? = some x) (hbj : bs[j]? = some b)
    (hsat : rowSat row xs) : row.b - (rbHi row.cs bs - tmax c b) ≤ c * x := by
  have h := dot_le_except row.cs xs bs j c x b hb hc hx hbj
  have hw := inBox_get hb hx hbj
  have he := (tminmax_eq c b (by omega)).2
  unfold rowSat at hsat
  omega

theorem slackQ_lb (row : PRow) {xs : List Int} {bs : List Bnd} {j : Nat} {c x : Int} {b : Bnd}
    (hb : InBox xs bs) (hc : row.cs[j]? = some c) (hx : xs[j]? = some x) (hbj : bs[j]? = some b)
    (hpos : 0 < c) (hsat : rowSat row xs) : slackQ row bs c b ≤ x := by
  have h1 := Int.ediv_le_ediv hpos (slack_le row hb hc hx hbj hsat)
  rw [Int.mul_ediv_cancel_left _ (by omega)] at h1
  simpa only [slackQ, floorDiv, gt_iff_lt, hpos, if_true] using h1

theorem slackQ_ub (row : PRow) {xs : List Int} {bs : List Bnd} {j : Nat} {c x : Int} {b : Bnd}
    (hb : InBox xs bs) (hc : row.cs[j]? = some c) (hx : xs[j]? = some x) (hbj : bs[j]? = some b)
    (hneg : c < 0) (hsat : rowSat row xs) : x ≤ slackQ row bs c b := by
  have hr := slack_le row hb hc hx hbj hsat
  have hn : ¬ c > 0 := by omega
  simp only [slackQ, floorDiv, hn, if_false]
  refine (Int.le_ediv_iff_mul_le (by omega)).2 ?_
  rw [Int.mul_neg, Int.mul_comm]; omega

theorem maxL_le (d x : Int) : ∀ l : List Int, d ≤ x → (∀ c ∈ l, c ≤ x) → maxL d l ≤ x
  | [], hd, _ => hd
  | c :: l, hd, h => by
      have := maxL_le d x l hd (fun c' hc' => h c' (List.mem_cons_of_mem _ hc'))
      have := h c List.mem_cons_self
      simp only [maxL]; omega
theorem le_minL (d x : Int) : ∀ l : List Int, x ≤ d → (∀ c ∈ l, x ≤ c) → x ≤ minL d l
  | [], hd, _ => hd
  | c :: l, hd, h => by
      have := le_minL d x l hd (fun c' hc' => h c' (List.mem_cons_of_mem _ hc'))
      have := h c List.mem_cons_self
      simp only [minL]; omega

theorem zipTerm_eq_zipWith (f : Int → Bnd → Int) : ∀ cs bs, zipTerm f cs bs = List.zipWith f cs bs
  | [], _ => rfl
  | _ :: _, [] => rfl
  | c :: cs, b :: bs => by simp [zipTerm, zipTerm_eq_zipWith f cs bs]

theorem zipTerm_get (f : Int → Bnd → Int) {cs : List Int} {bs : List Bnd} {j : Nat} {c b} (hc : cs[j]? = some c)
    (hb : bs[j]? = some b) : (zipTerm f cs bs)[j]? = some (f c b) := by
  rw [zipTerm_eq_zipWith, List.getElem?_zipWith, hc, hb]

theorem redCols_length (p : Poly) : (redCols p).length = p.bnds.length := by
  simp [redCols, tighten, enum]

theorem nth_pos_get (cs : List Int) (j : Nat) (h : nth cs j ≠ 0) : cs[j]? = some (nth cs j) := by
  unfold nth at *
  rw [List.getD_eq_getElem?_getD] at *
  cases hj : cs[j]? with
  | none => simp [hj] at h
  | some c => rfl

end Poly
end Puan
