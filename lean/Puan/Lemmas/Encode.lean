/-
  The big-M encoding: the row predicate over the tree, its equivalence with the executable row list,
  feasibility of the evaluated extension (C01), and soundness for solver-safe trees (C02).
-/
import Puan.Model.Encode
import Puan.Lemmas.Tree
namespace Puan
namespace P

def colSum (x : String → Int) : List P → Int
  | [] => 0
  | k :: ks => x k.id + colSum x ks

/-- the big-M row of one node: s·Σ x(kid) + (m − v)·x(id) ≥ m -/
def rowSat (x : String → Int) (i : String) (s v : Int) (ks : List P) : Prop :=
  s * colSum x ks + (minSum s ks - v) * x i ≥ minSum s ks

mutual
def RowsSat (x : String → Int) : P → Prop
  | .leaf .. => True
  | .node i _ s v ks _ => rowSat x i s v ks ∧ RowsSatL x ks
def RowsSatL (x : String → Int) : List P → Prop
  | [] => True
  | k :: ks => RowsSat x k ∧ RowsSatL x ks
end

/-- rows with the top node asserted -/
def RowsSatActive (x : String → Int) : P → Prop
  | .leaf .. => True
  | .node _ _ s v ks _ => s * colSum x ks ≥ v ∧ RowsSatL x ks

mutual
/-- `x` extends `σ` by the evaluated truth value of every compound sub-node -/
def Agrees (x σ : String → Int) : P → Prop
  | .leaf i _ => x i = σ i
  | .node i b s v ks m => x i = evalPt σ (.node i b s v ks m) ∧ AgreesL x σ ks
def AgreesL (x σ : String → Int) : List P → Prop
  | [] => True
  | k :: ks => Agrees x σ k ∧ AgreesL x σ ks
end

mutual
def Box (x : String → Int) : P → Prop
  | .leaf i b => b.lo ≤ x i ∧ x i ≤ b.hi
  | .node i b _ _ ks _ => (b.lo ≤ x i ∧ x i ≤ b.hi) ∧ BoxL x ks
def BoxL (x : String → Int) : List P → Prop
  | [] => True
  | k :: ks => Box x k ∧ BoxL x ks
end

theorem RowsSatL_iff (x) : ∀ ks : List P, RowsSatL x ks ↔ ∀ k ∈ ks, RowsSat x k :=
  forall_of_rec Iff.rfl (fun _ _ => Iff.rfl)
theorem AgreesL_iff (x σ) : ∀ ks : List P, AgreesL x σ ks ↔ ∀ k ∈ ks, Agrees x σ k :=
  forall_of_rec Iff.rfl (fun _ _ => Iff.rfl)
theorem BoxL_iff (x) : ∀ ks : List P, BoxL x ks ↔ ∀ k ∈ ks, Box x k :=
  forall_of_rec Iff.rfl (fun _ _ => Iff.rfl)

theorem colSum_eq (x) (ks : List P) : colSum x ks = (ks.map fun k => x k.id).sum :=
  sum_of_rec rfl (fun _ _ => rfl) ks
theorem minSum_eq (s) (ks : List P) : minSum s ks = (ks.map fun k => minTerm s k.bnd).sum :=
  sum_of_rec rfl (fun _ _ => rfl) ks
theorem lhs_eq (x : String → Int) (l : List (String × Int)) : Row.lhs x l = (l.map fun p => p.2 * x p.1).sum :=
  sum_of_rec rfl (fun _ _ => rfl) l
theorem kidCoefs_eq (s : Int) (ks : List P) : kidCoefs s ks = ks.map fun k => (k.id, s) :=
  map_of_rec rfl (fun _ _ => rfl) ks

theorem lhs_append (x : String → Int) (a b : List (String × Int)) :
    Row.lhs x (a ++ b) = Row.lhs x a + Row.lhs x b := by
  simp only [lhs_eq, List.map_append, List.sum_append_int]

theorem lhs_kidCoefs (x : String → Int) (s : Int) (ks : List P) : Row.lhs x (kidCoefs s ks) = s * colSum x ks := by
  rw [lhs_eq, kidCoefs_eq, colSum_eq, List.map_map, ← List.sum_map_mul_left]; rfl

theorem rowOf_sat (x : String → Int) (i s v ks) : (rowOf i s v ks).sat x ↔ rowSat x i s v ks := by
  simp [Row.sat, rowOf, rowSat, lhs_append, lhs_kidCoefs, Row.lhs]

theorem topRow_sat (x : String → Int) (s v ks) : (topRow s v ks).sat x ↔ s * colSum x ks ≥ v := by
  simp [Row.sat, topRow, lhs_kidCoefs]

mutual
theorem rows_spec (x : String → Int) : ∀ p, (∀ r ∈ rows p, r.sat x) ↔ RowsSat x p
  | .leaf .. => by simp [rows, RowsSat]
  | .node i b s v ks m => by
      simp only [rows, RowsSat, List.mem_cons, forall_eq_or_imp, rowOf_sat, rowsL_spec x ks]
theorem rowsL_spec (x : String → Int) : ∀ ks, (∀ r ∈ rowsL ks, r.sat x) ↔ RowsSatL x ks
  | [] => by simp [rowsL, RowsSatL]
  | k :: ks => by
      simp only [rowsL, RowsSatL, List.mem_append, or_imp, forall_and, rows_spec x k, rowsL_spec x ks]
end

theorem encode_sat (x : String → Int) (t : P) : (∀ r ∈ encode false t, r.sat x) ↔ RowsSat x t := by
  cases t <;> simp [encode, rows_spec, RowsSat]

theorem encode_active_sat (x : String → Int) (t : P) : (∀ r ∈ encode true t, r.sat x) ↔ RowsSatActive x t := by
  cases t <;> simp [encode, topRow_sat, rowsL_spec, RowsSatActive]

theorem colSum_le_sumPt (x σ) (ks : List P) (h : ∀ k ∈ ks, x k.id ≤ evalPt σ k) : colSum x ks ≤ sumPt σ ks := by
  rw [colSum_eq, sumPt_eq]; exact List.sum_map_le h

theorem colSum_eq_sumPt (x σ) (ks : List P) (h : ∀ k ∈ ks, x k.id = evalPt σ k) : colSum x ks = sumPt σ ks := by
  rw [colSum_eq, sumPt_eq, List.map_congr_left h]

theorem colSum_leaves (x) (ks : List P) (h : ∀ k ∈ ks, k.isLeaf = true) : colSum x ks = sumPt x ks :=
  colSum_eq_sumPt x x ks fun k hk => by
    cases k with
    | leaf => rfl
    | node => cases h _ hk

theorem agrees_id (x σ) : ∀ p, Agrees x σ p → x p.id = evalPt σ p
  | .leaf .., h => h
  | .node .., h => h.1

theorem evalPt_mem_bnd (σ) : ∀ k : P, InB σ k → Free01 k → k.bnd.lo ≤ evalPt σ k ∧ evalPt σ k ≤ k.bnd.hi
  | .leaf .., h, _ => h
  | .node i b s v ks m, _, hf => by
      have := evalPt01 σ (.node i b s v ks m) rfl; have := hf.1; simp only [bnd]; omega

theorem minTerm_le (s : Int) (b : Bnd) (e : Int) (h : b.lo ≤ e ∧ e ≤ b.hi) : minTerm s b ≤ s * e := by
  unfold minTerm; split
  · rename_i hs; exact Int.mul_le_mul_of_nonneg_left h.1 hs
  · exact Int.mul_le_mul_of_nonpos_left (by omega) h.2

theorem minSum_le (σ) (s : Int) (ks : List P) (hb : ∀ k ∈ ks, InB σ k) (hf : ∀ k ∈ ks, Free01 k) :
    minSum s ks ≤ s * sumPt σ ks := by
  rw [minSum_eq, sumPt_eq, ← List.sum_map_mul_left]
  exact List.sum_map_le fun k hk => minTerm_le s k.bnd _ (evalPt_mem_bnd σ k (hb k hk) (hf k hk))

theorem rowsSat_of_agrees (x σ) (p : P) : Agrees x σ p → InB σ p → Free01 p → RowsSat x p := by
  induction p with
  | leaf => intros; trivial
  | node i b s v ks m ih =>
      simp only [Agrees, InB, Free01, RowsSat, AgreesL_iff, InBs_iff, Free01L_iff, RowsSatL_iff]
      intro ⟨hx, ha⟩ hb ⟨_, hf⟩
      refine ⟨?_, fun k hk => ih k hk (ha k hk) (hb k hk) (hf k hk)⟩
      have := minSum_le σ s ks hb hf
      rw [rowSat, colSum_eq_sumPt x σ ks fun k hk => agrees_id x σ k (ha k hk), hx, evalPt]
      split <;> omega

/-- a positive sign carries `≤` of the sums over; under a negative sign all children are leaves, where column and value
    are the same -/
theorem sumPt_ge_of_colSum_ge (x : String → Int) (s v : Int) (ks : List P)
    (hs : s = 1 ∨ (s = -1 ∧ ∀ k ∈ ks, k.isLeaf = true)) (hle : colSum x ks ≤ sumPt x ks)
    (h : s * colSum x ks ≥ v) : s * sumPt x ks ≥ v := by
  rcases hs with rfl | ⟨rfl, hl⟩
  · omega
  · rwa [← colSum_leaves x ks hl]

/-- a selected compound column implies the node is true on the leaf part of `x` -/
theorem sel_le_eval (x) (p : P) : Safe p → Free01 p → Box x p → RowsSat x p → x p.id ≤ evalPt x p := by
  induction p with
  | leaf => intros; exact Int.le_refl _
  | node i b s v ks m ih =>
      simp only [Safe, Free01, Box, RowsSat, SafeL_iff, Free01L_iff, BoxL_iff, RowsSatL_iff]
      intro ⟨hs, hsk⟩ ⟨hb01, hfk⟩ ⟨hbx, hbk⟩ ⟨hr, hrk⟩
      have hle := colSum_le_sumPt x x ks fun k hk => ih k hk (hsk k hk) (hfk k hk) (hbk k hk) (hrk k hk)
      have hthr := sumPt_ge_of_colSum_ge x s v ks hs hle
      simp only [id, evalPt]; split
      · omega
      · -- the column is 0 or 1, and 1 would make the row assert the threshold
        have : x i = 0 ∨ x i = 1 := by omega
        rcases this with h | h <;> rw [rowSat, h] at hr <;> omega

theorem evalPt_of_active (x : String → Int) (i b s v ks m)
    (hs : Safe (.node i b s v ks m)) (hf : Free01 (.node i b s v ks m)) (hb : Box x (.node i b s v ks m))
    (hr : ∀ r ∈ encode true (.node i b s v ks m), r.sat x) : evalPt x (.node i b s v ks m) = 1 := by
  obtain ⟨htop, hrest⟩ := (encode_active_sat x _).1 hr
  have hle := colSum_le_sumPt x x ks fun k hk => sel_le_eval x k ((SafeL_iff ks).1 hs.2 k hk) ((Free01L_iff ks).1 hf.2 k hk)
    ((BoxL_iff x ks).1 hb.2 k hk) ((RowsSatL_iff x ks).1 hrest k hk)
  rw [evalPt, if_pos (sumPt_ge_of_colSum_ge x s v ks hs.1 hle htop)]

end P
end Puan
