/-
  Invariants of the constructors: for a `Q` that is a `CtorInv`, closure under every constructor and under `Ast.build` is
  proved once.
-/
import Puan.Lemmas.CcAny
namespace Puan
namespace P

/-- `Q` is decided, compound by compound, by a condition `C` on the compound's own bounds, sign and children (as a
    set) — not on ids, values or class tags — and the constructors' own choices meet `C`: a positive sign over anything,
    the sign −1 of an empty `All`.  `Good σ`, `Safe ∧ BoolLeaves` and `Free01` are of this kind. -/
structure CtorInv (Q : P → Prop) (C : Bnd → Int → List P → Prop) : Prop where
  node : ∀ {i b s v ks m}, Q (.node i b s v ks m) ↔ C b s ks ∧ ∀ k ∈ ks, Q k
  perm : ∀ {b s} {l l' : List P}, l.Perm l' → (C b s l ↔ C b s l')
  pos : ∀ ks, C ⟨0, 1⟩ 1 ks
  nil : C ⟨0, 1⟩ (-1) []
  neg : ∀ p, Q p → Q (negate p)

namespace CtorInv
variable {Q : P → Prop} {C : Bnd → Int → List P → Prop} (h : CtorInv Q C)
include h

theorem mkAtLeast (v : Int) (ks : List P) (var sgn cls) :
    Q (mkAtLeast v ks var sgn cls) ↔ C ((var.map (·.2)).getD ⟨0, 1⟩) (sgnOf v sgn) ks ∧ ∀ k ∈ ks, Q k := by
  simp only [mkAtLeast_eq, h.node, h.perm (sortById_perm ks), mem_sortById]

theorem setCond (p : P) (c) : Q (setCond p c) ↔ Q p := by cases p <;> simp only [P.setCond, h.node]
theorem setDflt (p : P) (d) : Q (setDflt p d) ↔ Q p := by cases p <;> simp only [P.setDflt, h.node]
theorem setPrio (p : P) (q) : Q (setPrio p q) ↔ Q p := by cases p <;> simp only [P.setPrio, h.node]

theorem mkAny (args : List (Bool × P)) (oid cls) : Q (mkAny args oid cls) ↔ ∀ x ∈ args, Q x.2 := by
  simp only [P.mkAny, h.mkAtLeast, varOf_bnd, forall_orderArgs, and_iff_right_iff_imp]
  exact fun _ => h.pos _

theorem mkAll (args : List (Bool × P)) (oid cls) : Q (mkAll args oid cls) ↔ ∀ x ∈ args, Q x.2 := by
  simp only [P.mkAll, h.mkAtLeast, varOf_bnd, forall_orderArgs, and_iff_right_iff_imp]
  intro _
  rcases args with _ | ⟨x, r⟩
  · exact h.nil
  · have := distinctCount_pos (l := x :: r) (by simp)
    rw [sgnOf_pos (by omega)]; exact h.pos _

theorem mkAtMost (v : Int) (ks : List P) (oid) : Q (mkAtMost v ks (varOf oid)) ↔ C ⟨0, 1⟩ (-1) ks ∧ ∀ k ∈ ks, Q k := by
  simp only [P.mkAtMost, h.mkAtLeast, varOf_bnd, sgnOf, Option.getD_some]

theorem mkXor (args : List (Bool × P)) (oid cls) :
    Q (mkXor args oid cls) ↔ C ⟨0, 1⟩ (-1) (orderArgs args) ∧ ∀ x ∈ args, Q x.2 := by
  have := h.mkAtMost 1 (orderArgs args) none
  simp only [varOf, Option.map_none] at this
  simp only [mkXor_eq, h.mkAtLeast, varOf_bnd, Option.map_none, Option.getD_none, sgnOf_one, sgnOf_two, this, forall_orderArgs,
    List.mem_cons, List.not_mem_nil, or_false, forall_eq_or_imp, forall_eq]
  -- left: `C⁺ [halves] ∧ (C⁺ args ∧ ∀ args, Q) ∧ C⁻ args ∧ ∀ args, Q ↔ C⁻ args ∧ ∀ args, Q`; the positive signs are free (`h.pos`)
  exact ⟨fun ⟨_, ⟨_, hq⟩, hc, _⟩ => ⟨hc, hq⟩, fun ⟨hc, hq⟩ => ⟨h.pos _, ⟨h.pos _, hq⟩, hc, hq⟩⟩

theorem mkNot (isAtom : Bool) (a : Bool × P) (ha : Q a.2) : Q (mkNot isAtom a) := by
  unfold P.mkNot
  split
  · exact h.neg _ ((h.mkAll ..).2 (List.forall_mem_singleton.2 ha))
  · exact h.neg _ ha

theorem mkImply (cAtom : Bool) (c d : Bool × P) (oid) (hc : Q c.2) (hd : Q d.2) : Q (mkImply cAtom c d oid) := by
  simp only [P.mkImply, h.setCond, h.mkAny, List.mem_cons, List.not_mem_nil, or_false, forall_eq_or_imp, forall_eq]
  exact ⟨h.mkNot _ _ hc, hd⟩

/-- the second half is not `Q` before it is negated (a −1 over compounds), hence the normal form of its negation -/
theorem mkXNor (args : List (Bool × P)) (oid) (ha : ∀ x ∈ args, Q x.2) : Q (mkXNor args oid) := by
  simp only [P.mkXNor, h.setCond, h.mkAny, List.mem_cons, List.not_mem_nil, or_false, forall_eq_or_imp, forall_eq,
    negate_mkAtMost_none, h.node, mem_sortById, forall_orderArgs]
  exact ⟨h.neg _ ((h.mkAtLeast ..).2 ⟨h.pos _, forall_orderArgs.2 ha⟩), h.pos _, ha⟩

theorem mkCcAny (args : List (Bool × P)) (dflt oid) : Q (mkCcAny args dflt oid) ↔ ∀ x ∈ args, Q x.2 := by
  rw [mkCcAny_eq, h.setDflt, h.mkAny, forall_ccArgs (fun l => by rw [h.setPrio, h.mkAny])]

/-- with a default the node holds, in some order, a `cc.Any` over the alternatives and the "at most one" half -/
theorem mkCcXor (args : List (Bool × P)) (dflt oid) :
    Q (mkCcXor args dflt oid) ↔ C ⟨0, 1⟩ (-1) (orderArgs args) ∧ ∀ x ∈ args, Q x.2 := by
  rcases dflt with _ | ⟨d, ds⟩
  · rw [mkCcXor_nil, h.mkXor]
  · obtain ⟨ks, hp, e⟩ := mkCcXor_node args d ds oid
    have hM := h.mkAtMost 1 (orderArgs args) none
    simp only [varOf, Option.map_none] at hM
    simp only [e, h.node, hp.mem_iff, List.forall_mem_cons, h.mkCcAny, hM, List.forall_mem_map, mem_sortById, forall_orderArgs]
    -- left: `C⁺ ks ∧ (∀ args, Q) ∧ (C⁻ args ∧ ∀ args, Q) ∧ ∀ x ∈ [], Q x ↔ C⁻ args ∧ ∀ args, Q`
    exact ⟨fun hq => hq.2.2.1, fun hc => ⟨h.pos _, hc.2, hc, fun _ hx => nomatch hx⟩⟩

end CtorInv

theorem goodInv (σ) : CtorInv (Good σ) (fun _ s _ => s = 1 ∨ s = -1) :=
  ⟨good_node_iff, fun _ => Iff.rfl, fun _ => .inl rfl, .inr rfl, good_negate σ⟩

end P

open Ast P in
/-- `G` is a grammar that argument expressions inherit, that makes the variables `Q`, and that puts a sign under which `C`
    may fail (−1: `AtMost`, `Xor`, `cc.Xor`; whatever an `AtLeast` was given) only over children that meet `C` -/
theorem P.CtorInv.build {Q : P → Prop} {C : Bnd → Int → List P → Prop} (h : CtorInv Q C) {G : Ast → Prop}
    (sub : ∀ {a}, G a → ∀ c ∈ a.args, G c)
    (var : ∀ {i b}, G (.var i b) → Q (.leaf i b)) (str : ∀ {i}, G (.str i) → Q (.leaf i ⟨0, 1⟩))
    (atLeast : ∀ {v as oid sgn}, G (.atLeast v as oid sgn) → C ⟨0, 1⟩ (sgnOf v sgn) (orderArgs (buildL as)))
    (atMost : ∀ {v as oid}, G (.atMost v as oid) → C ⟨0, 1⟩ (-1) (orderArgs (buildL as)))
    (xor : ∀ {as oid e}, G (.xor as oid e) → C ⟨0, 1⟩ (-1) (orderArgs (buildL as)))
    (ccXor : ∀ {as dflt oid}, G (.ccXor as dflt oid) → C ⟨0, 1⟩ (-1) (orderArgs (buildL as)))
    (a : Ast) : G a → Q (Ast.build a) := by
  induction a using Ast.ind with | _ a ih =>
  intro g
  have hk : ∀ c ∈ a.args, Q (Ast.build c) := fun c hc => ih c hc (sub g c hc)
  cases a with
  | var i b => exact var g
  | str i => exact str g
  | atLeast v as oid sgn => exact (h.mkAtLeast ..).2 ⟨by rw [varOf_bnd]; exact atLeast g, forall_orderArgs.2 (forall_buildL.2 hk)⟩
  | atMost v as oid => exact (h.mkAtMost ..).2 ⟨atMost g, forall_orderArgs.2 (forall_buildL.2 hk)⟩
  | all as oid => exact (h.mkAll ..).2 (forall_buildL.2 hk)
  | any as oid => exact (h.mkAny ..).2 (forall_buildL.2 hk)
  | xor as oid e => exact (h.mkXor ..).2 ⟨xor g, forall_buildL.2 hk⟩
  | xnor as oid => exact h.mkXNor _ _ (forall_buildL.2 hk)
  | imply c d oid => exact h.mkImply _ _ _ _ (hk c (by simp [args])) (hk d (by simp [args]))
  | not a => exact h.mkNot _ _ (hk a (by simp [args]))
  | ccAny as dflt oid => exact (h.mkCcAny ..).2 (forall_buildL.2 hk)
  | ccXor as dflt oid => exact (h.mkCcXor ..).2 ⟨ccXor g, forall_buildL.2 hk⟩
  | stingy as oid => exact (h.mkAll ..).2 (forall_buildL.2 hk)

namespace Ast
open P

-- here and not in Lemmas/Build.lean: the `ccAny` case needs `mkCcAny_eq` (Lemmas/CcAny.lean)
theorem build_isLeaf (a : Ast) : (build a).isLeaf = a.isAtom := by
  induction a using Ast.ind with | _ a ih =>
  cases a
  case var | str => rfl
  case not a => simp [build, mkNot_isLeaf, ih a (by simp [args]), isAtom]
  case ccXor as dflt oid =>
    rcases dflt with _ | ⟨d, ds⟩
    · simp [build, mkCcXor, mkXor_eq, isAtom]
    · obtain ⟨ks, _, e⟩ := mkCcXor_node (buildL as) d ds oid
      rw [build, e]; rfl
  -- the nine that are one `mkAtLeast` (under a setter): a node, `isAtom` is `false`
  all_goals simp [build, isAtom, mkAll, mkAny, mkAtMost, mkXor_eq, mkXNor, mkImply, mkCcAny_eq]

end Ast
end Puan
