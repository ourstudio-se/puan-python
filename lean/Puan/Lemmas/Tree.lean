/-
  Induction over `P` with the hypothesis for every child (`P.ind`: what `induction t` means for a `P` from here on), and
  the list halves of the mutual definitions of Model/Tree.lean as statements about the members: with these a theorem
  about trees need not be a mutual pair.  The leaves and the compounds among children (`leavesOf`, `comps`).  The
  sub-propositions of a sub-proposition are a sublist of those of the whole (`subs_sublist`).
-/
import Puan.Model.Tree
import Puan.Lemmas.List
namespace Puan
namespace P

@[elab_as_elim, induction_eliminator]
theorem ind {motive : P → Prop} (leaf : ∀ i b, motive (.leaf i b))
    (node : ∀ i b s v ks m, (∀ k ∈ ks, motive k) → motive (.node i b s v ks m)) (p : P) : motive p :=
  P.rec (motive_1 := motive) (motive_2 := fun ks => ∀ k ∈ ks, motive k) leaf node
    (fun _ h => nomatch h) (fun _ _ hk hks => List.forall_mem_cons.2 ⟨hk, hks⟩) p

@[simp] theorem SignOks_iff (ks : List P) : SignOks ks ↔ ∀ k ∈ ks, SignOk k :=
  forall_of_rec Iff.rfl (fun _ _ => Iff.rfl) ks
@[simp] theorem InBs_iff (σ) (ks : List P) : InBs σ ks ↔ ∀ k ∈ ks, InB σ k :=
  forall_of_rec Iff.rfl (fun _ _ => Iff.rfl) ks
@[simp] theorem SafeL_iff (ks : List P) : SafeL ks ↔ ∀ k ∈ ks, Safe k :=
  forall_of_rec Iff.rfl (fun _ _ => Iff.rfl) ks
@[simp] theorem Free01L_iff (ks : List P) : Free01L ks ↔ ∀ k ∈ ks, Free01 k :=
  forall_of_rec Iff.rfl (fun _ _ => Iff.rfl) ks

theorem InBs_perm (σ) {l1 l2 : List P} (h : l1.Perm l2) : InBs σ l1 ↔ InBs σ l2 := by
  simp only [InBs_iff, h.mem_iff]

theorem SignOks_perm {l1 l2 : List P} (h : l1.Perm l2) : SignOks l1 ↔ SignOks l2 := by
  simp only [SignOks_iff, h.mem_iff]

theorem sumPt_eq (σ) (ks : List P) : sumPt σ ks = (ks.map (evalPt σ)).sum :=
  sum_of_rec rfl (fun _ _ => rfl) ks

theorem sumPt_perm (σ) {l1 l2 : List P} (h : l1.Perm l2) : sumPt σ l1 = sumPt σ l2 := by
  rw [sumPt_eq, sumPt_eq, (h.map _).sum_int]

theorem sumPt_map_congr (σ) {g : P → P} {l : List P} (e : ∀ k ∈ l, evalPt σ (g k) = evalPt σ k) :
    sumPt σ (l.map g) = sumPt σ l := by
  rw [sumPt_eq, sumPt_eq, List.map_map]; exact congrArg _ (List.map_congr_left e)

theorem sumPt_append (σ) (a b : List P) : sumPt σ (a ++ b) = sumPt σ a + sumPt σ b := by
  simp [sumPt_eq]

theorem subsL_eq_flatMap : ∀ ks : List P, subsL ks = ks.flatMap subs :=
  flatMap_of_rec rfl (fun _ _ => rfl)

theorem mem_subsL {x : P} {ks : List P} : x ∈ subsL ks ↔ ∃ k ∈ ks, x ∈ subs k := by
  simp [subsL_eq_flatMap]

theorem self_mem_subs : ∀ p : P, p ∈ subs p
  | .leaf .. => List.mem_cons_self
  | .node .. => List.mem_cons_self

theorem subs_sublist_of_mem {k : P} {ks : List P} (h : k ∈ ks) : (subs k).Sublist (subsL ks) := by
  rw [subsL_eq_flatMap, List.flatMap_def]; exact List.sublist_flatten_of_mem (List.mem_map_of_mem h)

theorem subs_sublist (t : P) : ∀ n ∈ subs t, (subs n).Sublist (subs t) := by
  induction t with
  | leaf i b => intro n hn; rw [List.mem_singleton.1 hn]; exact .refl _
  | node i b s v ks m ih =>
      intro n hn
      rcases List.mem_cons.1 hn with rfl | hn
      · exact .refl _
      · obtain ⟨k, hk, hnk⟩ := mem_subsL.1 hn
        exact ((ih k hk n hnk).trans (subs_sublist_of_mem hk)).cons _

theorem subs_trans {t n x : P} (hn : n ∈ subs t) (hx : x ∈ subs n) : x ∈ subs t :=
  (subs_sublist t n hn).subset hx

theorem kids_sublist : ∀ ks : List P, ks.Sublist (subsL ks)
  | [] => .slnil
  | k :: ks => by
      obtain ⟨r, hr⟩ : ∃ r, subs k = k :: r := by cases k <;> exact ⟨_, rfl⟩
      rw [subsL, hr]; exact ((kids_sublist ks).trans (List.sublist_append_right _ _)).cons_cons _

theorem kid_mem_subs {t k : P} (h : k ∈ t.kids) : k ∈ subs t := by
  cases t with
  | leaf => cases h
  | node => exact List.mem_cons_of_mem _ ((kids_sublist _).subset h)

theorem evalPt01 (σ) (p : P) (h : p.isLeaf = false) : evalPt σ p = 0 ∨ evalPt σ p = 1 := by
  cases p with
  | leaf => cases h
  | node => simp only [evalPt]; split <;> simp

def leavesOf (ks : List P) : List P := ks.filter (·.isLeaf)
def comps (ks : List P) : List P := ks.filter (fun k => !k.isLeaf)

theorem mem_leavesOf {k : P} {ks : List P} : k ∈ leavesOf ks ↔ k ∈ ks ∧ k.isLeaf = true := List.mem_filter
theorem mem_comps {k : P} {ks : List P} : k ∈ comps ks ↔ k ∈ ks ∧ k.isLeaf = false := by simp [comps]

/-- stated on `.leaf i b`, where `InB`, `BoolLeaves` and the like reduce by `rfl`, so that a caller passes its hypothesis on
    the children as it stands -/
theorem forall_leavesOf {Q : P → Prop} {ks : List P} : (∀ a ∈ leavesOf ks, Q a) ↔ ∀ i b, .leaf i b ∈ ks → Q (.leaf i b) :=
  ⟨fun h i b hm => h _ (mem_leavesOf.2 ⟨hm, rfl⟩), fun h a ha => by
    obtain ⟨hm, hl⟩ := mem_leavesOf.1 ha
    cases a with
    | leaf i b => exact h i b hm
    | node => cases hl⟩

theorem comps_eq_nil {ks : List P} : comps ks = [] ↔ ∀ k ∈ ks, k.isLeaf = true := by
  simp [comps, List.filter_eq_nil_iff]

theorem comps_leaves_perm (ks : List P) : (comps ks ++ leavesOf ks).Perm ks :=
  List.perm_append_comm.trans (List.filter_append_perm _ ks)

theorem sum_leaves_comps (f : P → Int) (ks : List P) :
    ((leavesOf ks).map f).sum + ((comps ks).map f).sum = (ks.map f).sum :=
  List.sum_filter_add_not (fun k : P => k.isLeaf) f ks

end P
end Puan
