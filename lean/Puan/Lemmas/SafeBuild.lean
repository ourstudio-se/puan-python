/-
  Constructor expressions in the "safe grammar" build solver-safe models over boolean leaves: the invariant `SB` is
  preserved by every constructor that does not put a compound under a negative sign, and by `negate` (which pushes
  inwards).  No sub-proposition of any built model is pre-fixed (`Free01`).
-/
import Puan.Lemmas.Ctor
import Puan.Props.C05
namespace Puan
namespace P
open C05

def SB (p : P) : Prop := Safe p ∧ BoolLeaves p

theorem sb_node {i b s v} {ks : List P} {m} :
    SB (.node i b s v ks m) ↔ (s = 1 ∨ (s = -1 ∧ ∀ k ∈ ks, k.isLeaf = true)) ∧ ∀ k ∈ ks, SB k := by
  simp only [SB, Safe, BoolLeaves, SafeL_iff, BoolLeavesL_iff]
  exact ⟨fun ⟨⟨hs, h1⟩, h2⟩ => ⟨hs, fun k hk => ⟨h1 k hk, h2 k hk⟩⟩,
    fun ⟨hs, hk⟩ => ⟨⟨hs, fun k hk' => (hk k hk').1⟩, fun k hk' => (hk k hk').2⟩⟩

theorem sb_kids (i b s v) (ks : List P) (m) (h : SB (.node i b s v ks m)) : ∀ k ∈ ks, SB k := (sb_node.1 h).2

theorem boolLeaves_of_leaf_kids (l : List P) (h : ∀ a ∈ l, BoolLeaves a) : BoolLeavesL l := (BoolLeavesL_iff l).2 h

theorem boolLeaves_negate : ∀ p, BoolLeaves p → BoolLeaves (negate p) :=
  negate_preserves (kids := fun h => (BoolLeavesL_iff _).1 h) (grp := fun l hl => (BoolLeavesL_iff l).2 hl)
    (hdr := fun _ _ _ ks' _ _ hk => (BoolLeavesL_iff ks').2 hk)

theorem sb_negate (p : P) (h : SB p) : SB (negate p) := ⟨negate_safe p h.1 h.2, boolLeaves_negate p h.2⟩

theorem sbInv : CtorInv SB (fun _ s ks => s = 1 ∨ (s = -1 ∧ ∀ k ∈ ks, k.isLeaf = true)) where
  node := sb_node
  perm hp := by simp only [hp.mem_iff]
  pos _ := .inl rfl
  nil := .inr ⟨rfl, fun _ h => nomatch h⟩
  neg := sb_negate

end P

namespace Ast
open P

mutual
/-- the safe grammar: boolean variables; `All`, `Any`, `XNor`, `Imply`, `Not`, `StingyConfigurator` and positively
    signed `AtLeast` over safe arguments; negatively signed `AtLeast`, `AtMost`, `Xor`/`ExactlyOne` over variables only -/
def SafeExpr : Ast → Prop
  | .var _ b => b.lo = 0 ∧ b.hi = 1
  | .str _ => True
  | .atLeast v as _ sgn => SafeExprL as ∧ (sgnOf v sgn = 1 ∨ (sgnOf v sgn = -1 ∧ AtomsL as))
  | .atMost _ as _ => SafeExprL as ∧ AtomsL as
  | .all as _ => SafeExprL as
  | .any as _ => SafeExprL as
  | .xor as _ _ => SafeExprL as ∧ AtomsL as
  | .xnor as _ => SafeExprL as
  | .imply c d _ => SafeExpr c ∧ SafeExpr d
  | .not a => SafeExpr a
  | .ccAny .. => False
  | .ccXor .. => False
  | .stingy as _ => SafeExprL as
def SafeExprL : List Ast → Prop
  | [] => True
  | a :: as => SafeExpr a ∧ SafeExprL as
def AtomsL : List Ast → Prop
  | [] => True
  | a :: as => a.isAtom = true ∧ AtomsL as
end

theorem SafeExprL_iff : ∀ as : List Ast, SafeExprL as ↔ ∀ a ∈ as, SafeExpr a :=
  forall_of_rec Iff.rfl fun _ _ => Iff.rfl

theorem AtomsL_iff : ∀ as : List Ast, AtomsL as ↔ ∀ a ∈ as, a.isAtom = true :=
  forall_of_rec Iff.rfl fun _ _ => Iff.rfl

theorem safeExpr_args {a : Ast} (h : SafeExpr a) : ∀ c ∈ a.args, SafeExpr c := by
  cases a with
  | var | str => exact fun _ hc => nomatch hc
  | atLeast | atMost | xor => exact (SafeExprL_iff _).1 h.1
  | all | any | xnor | stingy => exact (SafeExprL_iff _).1 h
  | imply c d => exact List.forall_mem_cons.2 ⟨h.1, List.forall_mem_singleton.2 h.2⟩
  | not a => exact List.forall_mem_singleton.2 h
  | ccAny | ccXor => exact h.elim

theorem atoms_leaves {as : List Ast} (h : AtomsL as) : ∀ k ∈ orderArgs (buildL as), k.isLeaf = true :=
  forall_orderArgs.2 (forall_buildL (Q := (·.isLeaf = true)) |>.2 fun a ha =>
    (build_isLeaf a).trans ((AtomsL_iff as).1 h a ha))

theorem build_sb : ∀ a : Ast, SafeExpr a → SB (build a) :=
  sbInv.build (G := SafeExpr) (sub := safeExpr_args) (var := fun h => ⟨trivial, h⟩) (str := fun _ => ⟨trivial, rfl, rfl⟩)
    (atLeast := fun h => h.2.imp_right (.imp_right atoms_leaves)) (atMost := fun h => .inr ⟨rfl, atoms_leaves h.2⟩)
    (xor := fun h => .inr ⟨rfl, atoms_leaves h.2⟩) (ccXor := fun h => h.elim)

theorem buildL_sb : ∀ as : List Ast, SafeExprL as → ∀ x ∈ buildL as, SB x.2 :=
  fun as h => forall_buildL.2 fun a ha => build_sb a ((SafeExprL_iff as).1 h a ha)

end Ast

namespace P

theorem free01_node {i b s v} {ks : List P} {m} :
    Free01 (.node i b s v ks m) ↔ (b.lo = 0 ∧ b.hi = 1) ∧ ∀ k ∈ ks, Free01 k := by
  rw [Free01, Free01L_iff]

theorem free01_negate : ∀ p, Free01 p → Free01 (negate p) :=
  negate_preserves (kids := fun h => (free01_node.1 h).2) (grp := fun _ hl => free01_node.2 ⟨⟨rfl, rfl⟩, hl⟩)
    (hdr := fun {_ b _ _ _ m} _ _ _ _ h _ hk => free01_node.2 ⟨by
      have := (free01_node.1 h).1
      unfold negBnd; split
      · exact ⟨rfl, rfl⟩
      · rw [if_neg (by omega)]; exact this, hk⟩)

theorem free01_negPairs : ∀ ks : List P, (∀ k ∈ ks, Free01 k) → ∀ p ∈ negPairs ks, Free01 p.2 := by
  intro ks h p hp
  obtain ⟨k, hk, _, e⟩ := mem_negPairs hp
  exact e ▸ free01_negate k (h k hk)

theorem free01Inv : CtorInv Free01 (fun b _ _ => b.lo = 0 ∧ b.hi = 1) :=
  ⟨free01_node, fun _ => Iff.rfl, fun _ => ⟨rfl, rfl⟩, ⟨rfl, rfl⟩, free01_negate⟩

end P

namespace Ast
open P

/-- No sub-proposition of a built model is pre-fixed, whatever the expression: a constructor call can name its variable
    only by an id (`varOf`), never hand over a fixed one. -/
theorem free01_build (a : Ast) : Free01 (build a) :=
  free01Inv.build (G := fun _ => True) (sub := fun _ _ _ => trivial) (var := fun _ => trivial) (str := fun _ => trivial)
    (atLeast := fun _ => ⟨rfl, rfl⟩) (atMost := fun _ => ⟨rfl, rfl⟩) (xor := fun _ => ⟨rfl, rfl⟩) (ccXor := fun _ => ⟨rfl, rfl⟩) a trivial

theorem build_free01 : ∀ a : Ast, SafeExpr a → Free01 (build a) := fun a _ => free01_build a

theorem buildL_free01 : ∀ as : List Ast, SafeExprL as → ∀ x ∈ buildL as, Free01 x.2 :=
  fun _ _ => forall_buildL.2 fun a _ => free01_build a

end Ast

end Puan
