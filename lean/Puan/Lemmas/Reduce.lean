/-
  `reduce`: the bounds it computes are those of evaluating on the empty interpretation (`reduce_bnd`); constant
  children can be folded into the threshold (`const_split`).
-/
import Puan.Model.Build
import Puan.Lemmas.Assume
namespace Puan
namespace P

def E : Interp := fun _ => none

theorem isConst_iff (b : Bnd) : b.isConst = true ↔ b.lo = b.hi := by simp [Bnd.isConst]

theorem reduceComps_eq (ks : List P) : reduceComps ks = (comps ks).map reduce := by
  unfold comps
  induction ks with
  | nil => rfl
  | cons k ks ih => cases k <;> simp [reduceComps, isLeaf, ih]

/-- `reduce` works on the reduced children, compound ones first; it leaves a leaf as it is -/
theorem redKids_perm (ks : List P) : (reduceComps ks ++ leavesOf ks).Perm (ks.map reduce) := by
  have : (leavesOf ks).map reduce = leavesOf ks :=
    (List.map_congr_left ((forall_leavesOf (Q := fun k => reduce k = _root_.id k)).2 fun _ _ _ => rfl)).trans (List.map_id _)
  rw [reduceComps_eq, ← this, ← List.map_append]
  exact (comps_leaves_perm ks).map _

/-- the three outcomes of `reduce` at a compound node, so that `reduce` is unfolded here only
    (`sub`, `t` are passed as `_ _ rfl rfl`) -/
theorem reduce_node_elim {motive : P → Prop} (i b s v ks m) (sub t)
    (hsub : sub = reduceComps ks ++ leavesOf ks) (ht : t = thr s v sub)
    (h1 : b.lo = b.hi → motive (.leaf i b))
    (h2 : ¬ b.lo = b.hi → t.lo = t.hi → motive (.leaf i t))
    (h3 : ¬ b.lo = b.hi → ¬ t.lo = t.hi →
      motive (.node i t s (v - constSum sub * s) (sortById (sub.filter fun k => !k.bnd.isConst)) {})) :
    motive (reduce (.node i b s v ks m)) := by
  subst hsub ht; simp only [reduce, isConst_iff, ← show leavesOf ks = ks.filter (·.isLeaf) from rfl]
  by_cases hb : b.lo = b.hi
  · rw [if_pos hb]; exact h1 hb
  · rw [if_neg hb]
    by_cases ht : (thr s v (reduceComps ks ++ leavesOf ks)).lo = (thr s v (reduceComps ks ++ leavesOf ks)).hi
    · rw [if_pos ht]; exact h2 hb ht
    · rw [if_neg ht]; exact h3 hb ht

theorem reduce_node_bnd (i b s v ks m) : (reduce (.node i b s v ks m)).bnd =
    if b.lo = b.hi then b else thr s v (reduceComps ks ++ leavesOf ks) :=
  reduce_node_elim (motive := fun r => r.bnd = _) i b s v ks m _ _ rfl rfl
    (fun h => (if_pos h).symm) (fun h _ => (if_neg h).symm) (fun h _ => (if_neg h).symm)

theorem sums_redKids (s) (ks : List P) (g : P → P) :
    sumLo s ((reduceComps ks ++ leavesOf ks).map g) = sumLo s (ks.map (g ∘ reduce)) ∧
    sumHi s ((reduceComps ks ++ leavesOf ks).map g) = sumHi s (ks.map (g ∘ reduce)) := by
  rw [sumLo_perm s ((redKids_perm ks).map g), sumHi_perm s ((redKids_perm ks).map g), List.map_map]
  exact ⟨rfl, rfl⟩

theorem reduce_bnd : ∀ p, (reduce p).bnd = (assume E p).bnd := by
  intro p; induction p with
  | leaf i b => rfl
  | node i b s v ks m ih =>
      have h := sums_redKids s ks _root_.id
      have h' := sums_congr (f := _root_.id ∘ reduce) s ih
      rw [List.map_id] at h
      rw [reduce_node_bnd, thr_congr s v h, thr_congr s v h', ← assumeL_eq_map]
      exact (assume_node_bnd E i b s v ks m).symm

theorem reduce_const_isLeaf : ∀ p, (reduce p).bnd.isConst = true → (reduce p).isLeaf = true
  | .leaf .. => fun _ => rfl
  | .node i b s v ks m =>
      reduce_node_elim (motive := fun r => r.bnd.isConst = true → r.isLeaf = true) i b s v ks m _ _ rfl rfl
        (fun _ _ => rfl) (fun _ _ _ => rfl) (fun _ ht h => absurd ((isConst_iff _).1 h) ht)

theorem reduce_id : ∀ p, (reduce p).id = p.id
  | .leaf .. => rfl
  | .node i b s v ks m =>
      reduce_node_elim (motive := fun r => r.id = i) i b s v ks m _ _ rfl rfl (fun _ => rfl) (fun _ _ => rfl) (fun _ _ => rfl)

theorem constSum_eq (l : List P) : constSum l = ((l.filter (·.bnd.isConst)).map (·.bnd.lo)).sum := by
  induction l with
  | nil => rfl
  | cons k l ih => cases h : k.bnd.isConst <;> simp [constSum, h, ih]

/-- folding the constant children into the threshold: they shift both interval sums by `constSum l * s` -/
theorem const_split (I : Interp) (s : Int) (hs : s = 1 ∨ s = -1) : ∀ l : List P,
    (∀ k ∈ l, k.bnd.isConst = true → (assume I k).bnd = k.bnd) →
    sumLo s (assumeL I l) = sumLo s (assumeL I (l.filter (fun k => !k.bnd.isConst))) + constSum l * s ∧
    sumHi s (assumeL I l) = sumHi s (assumeL I (l.filter (fun k => !k.bnd.isConst))) + constSum l * s := by
  intro l h
  have e : ∀ k ∈ l.filter (·.bnd.isConst), (assume I k).bnd = .pt k.bnd.lo := fun k hk =>
    have ⟨hk, hc⟩ := List.mem_filter.1 hk
    (h k hk hc).trans (congrArg (Bnd.mk _) ((isConst_iff _).1 hc).symm)
  have ⟨e1, e2⟩ := sums_pt (f := assume I) hs e
  simp only [assumeL_eq_map, constSum_eq, Int.mul_comm _ s]
  constructor
  · rw [← e1]; simp only [sumLo_eq, List.map_map]
    rw [← List.sum_filter_add_not (fun k => !k.bnd.isConst) _ l]; simp only [Bool.not_not]
  · rw [← e2]; simp only [sumHi_eq, List.map_map]
    rw [← List.sum_filter_add_not (fun k => !k.bnd.isConst) _ l]; simp only [Bool.not_not]

end P
end Puan
