/-
  The constructors without their definitions: `orderArgs` as a permutation, the one node `mkAtLeast` builds
  (`mkAtLeast_eq`) and the normal forms of the constructors made from it, the invariant `Good` (preserved by `negate` here,
  by the constructors in Lemmas/Ctor.lean), and induction over constructor expressions (`Ast.ind`).
-/
import Puan.Model.Ast
import Puan.Lemmas.Negate
namespace Puan
namespace P

theorem orderArgs_perm (l : List (Bool × P)) : (orderArgs l).Perm (l.map (·.2)) := by
  unfold orderArgs
  rw [← List.map_append]
  apply List.Perm.map
  simpa using List.filter_append_perm (fun x : Bool × P => !x.1) l

theorem sortArgs_perm (l : List (Bool × P)) : (sortById (orderArgs l)).Perm (l.map (·.2)) :=
  (sortById_perm _).trans (orderArgs_perm l)

@[simp] theorem mem_orderArgs {k : P} {l : List (Bool × P)} : k ∈ orderArgs l ↔ k ∈ l.map (·.2) :=
  (orderArgs_perm l).mem_iff

theorem forall_args {Q : P → Prop} {l : List (Bool × P)} : (∀ k ∈ l.map (·.2), Q k) ↔ ∀ x ∈ l, Q x.2 :=
  List.forall_mem_map

theorem forall_orderArgs {Q : P → Prop} {l : List (Bool × P)} : (∀ k ∈ orderArgs l, Q k) ↔ ∀ x ∈ l, Q x.2 := by
  simp only [mem_orderArgs, forall_args]

theorem sum_orderArgs (σ) (l : List (Bool × P)) : sumPt σ (orderArgs l) = sumPt σ (l.map (·.2)) :=
  sumPt_perm σ (orderArgs_perm l)

theorem orderArgs_length (l : List (Bool × P)) : (orderArgs l).length = l.length := by
  simpa using (orderArgs_perm l).length_eq

theorem orderArgs_false (l : List P) : orderArgs (l.map (fun r => (false, r))) = l := by
  induction l with
  | nil => rfl
  | cons r rs ih => simpa [orderArgs] using ih

@[simp] theorem orderArgs_single (a : Bool × P) : orderArgs [a] = [a.2] := by
  rcases a with ⟨_ | _, p⟩ <;> rfl

@[simp] theorem map_false_snd (l : List P) : (l.map (fun c => ((false : Bool), c))).map (·.2) = l := by
  simp [List.map_map, Function.comp_def]

/-- the last of the arguments always counts as distinct -/
theorem distinctCount_pos : ∀ {l : List (Bool × P)}, l ≠ [] → 0 < distinctCount l
  | [x], _ => by simp [distinctCount]
  | x :: y :: r, _ => by
      have := distinctCount_pos (l := y :: r) (by simp)
      simp only [distinctCount] at this ⊢; omega

/-- two propositions in the order their ids sort, with the position `setCond` finds for `a`; `hid` reads the second's id
    against the first's because `findIdx` has to pass over `b` where `b` comes first -/
theorem pair_cases {l : List P} {a b : P} (h : l.Perm [a, b]) (hid : (b.id == a.id) = false) :
    (l = [a, b] ∧ l.findIdx (fun k => k.id == a.id) = 0) ∨ (l = [b, a] ∧ l.findIdx (fun k => k.id == a.id) = 1) := by
  rcases List.perm_pair h with rfl | rfl
  · exact Or.inl ⟨rfl, by simp [List.findIdx_cons]⟩
  · exact Or.inr ⟨rfl, by simp [List.findIdx_cons, hid]⟩

theorem sumPt_pair (σ) {ks : List P} {a b : P} (h : ks = [a, b] ∨ ks = [b, a]) : sumPt σ ks = evalPt σ a + evalPt σ b := by
  rcases h with rfl | rfl <;> simp only [sumPt] <;> omega

/-! ### a threshold over values 0 / 1 is a connective -/

theorem ite_add_ge_two (a b : Prop) [Decidable a] [Decidable b] :
    ((if a then (1 : Int) else 0) + (if b then 1 else 0) ≥ 2) ↔ a ∧ b := by
  by_cases a <;> by_cases b <;> simp [*]

theorem ite_add_ge_one (a b : Prop) [Decidable a] [Decidable b] :
    ((if a then (1 : Int) else 0) + (if b then 1 else 0) ≥ 1) ↔ a ∨ b := by
  by_cases a <;> by_cases b <;> simp [*]

theorem sumPt_range (σ) (l : List P) (h : ∀ k ∈ l, evalPt σ k = 0 ∨ evalPt σ k = 1) :
    0 ≤ sumPt σ l ∧ sumPt σ l ≤ l.length := by
  rw [sumPt_eq]; exact List.sum_map_01 h

/-- the sign an `AtLeast` ends up with: as given, else inferred from the value -/
def sgnOf (v : Int) (sgn : Option Int) : Int := sgn.getD (if v > 0 then 1 else -1)

theorem sgnOf_one : sgnOf 1 none = 1 := rfl
theorem sgnOf_two : sgnOf 2 none = 1 := rfl
theorem sgnOf_some (v s : Int) : sgnOf v (some s) = s := rfl
theorem sgnOf_pos {v : Int} (h : v > 0) : sgnOf v none = 1 := if_pos h

theorem sgnOf_pm (v : Int) {sgn : Option Int} (hs : sgn = none ∨ sgn = some 1 ∨ sgn = some (-1)) :
    sgnOf v sgn = 1 ∨ sgnOf v sgn = -1 := by
  rcases hs with rfl | rfl | rfl <;> simp [sgnOf]
  omega

@[simp] theorem varOf_id (oid : Option String) (g : String) : ((varOf oid).map (·.1)).getD g = oid.getD g := by cases oid <;> rfl
@[simp] theorem varOf_bnd (oid : Option String) : ((varOf oid).map (·.2)).getD ⟨0, 1⟩ = ⟨0, 1⟩ := by cases oid <;> rfl
@[simp] theorem varOf_isNone (oid : Option String) : (varOf oid).isNone = oid.isNone := by cases oid <;> rfl

/-- the two cases of the variable are folded into the id, the bounds and the `gen` flag, so that no proof opens the
    constructor, or splits on the variable, again -/
theorem mkAtLeast_eq (v : Int) (ks : List P) (var : Option (String × Bnd)) (sgn : Option Int) (cls : Cls) :
    mkAtLeast v ks var sgn cls =
      .node ((var.map (·.1)).getD (genId (sortById ks) v sgn)) ((var.map (·.2)).getD ⟨0, 1⟩) (sgnOf v sgn) v (sortById ks)
        { cls := cls, gen := var.isNone } := by
  rcases var with _ | ⟨i, b⟩ <;> rfl

@[simp] theorem mkAtLeast_isLeaf (v : Int) (ks : List P) (var sgn cls) : (mkAtLeast v ks var sgn cls).isLeaf = false := by
  rw [mkAtLeast_eq]; rfl

@[simp] theorem mkAtLeast_kids (v ks var sgn cls) : (mkAtLeast v ks var sgn cls).kids = sortById ks := by
  rw [mkAtLeast_eq]; rfl

@[simp] theorem mkAtLeast_mt (v ks var sgn cls) : (mkAtLeast v ks var sgn cls).mt = { cls := cls, gen := var.isNone } := by
  rw [mkAtLeast_eq]; rfl

@[simp] theorem mkAtLeast_bnd (v ks oid sgn cls) : (mkAtLeast v ks (varOf oid) sgn cls).bnd = ⟨0, 1⟩ := by
  rw [mkAtLeast_eq]; cases oid <;> rfl

@[simp] theorem mkAtLeast_id_some (v ks) (i : String) (sgn cls) : (mkAtLeast v ks (varOf (some i)) sgn cls).id = i := by
  rw [mkAtLeast_eq]; rfl

theorem evalPt_mkAtLeast (σ) (v : Int) (ks : List P) (var sgn cls) :
    evalPt σ (mkAtLeast v ks var sgn cls) = if sgnOf v sgn * sumPt σ ks ≥ v then 1 else 0 := by
  simp only [mkAtLeast_eq, evalPt, sumPt_sort]

@[simp] theorem setCond_isLeaf (p : P) (c) : (setCond p c).isLeaf = p.isLeaf := by cases p <;> rfl
@[simp] theorem setDflt_isLeaf (p : P) (d) : (setDflt p d).isLeaf = p.isLeaf := by cases p <;> rfl
@[simp] theorem setPrio_isLeaf (p : P) (q) : (setPrio p q).isLeaf = p.isLeaf := by cases p <;> rfl
@[simp] theorem setCond_kids (p : P) (c) : (setCond p c).kids = p.kids := by cases p <;> rfl
@[simp] theorem setDflt_kids (p : P) (d) : (setDflt p d).kids = p.kids := by cases p <;> rfl
@[simp] theorem setPrio_kids (p : P) (q) : (setPrio p q).kids = p.kids := by cases p <;> rfl
@[simp] theorem setCond_id (p : P) (c) : (setCond p c).id = p.id := by cases p <;> rfl
@[simp] theorem setDflt_id (p : P) (d) : (setDflt p d).id = p.id := by cases p <;> rfl
@[simp] theorem setPrio_id (p : P) (q) : (setPrio p q).id = p.id := by cases p <;> rfl
@[simp] theorem evalPt_setCond (σ) (p : P) (c) : evalPt σ (setCond p c) = evalPt σ p := by cases p <;> rfl
@[simp] theorem evalPt_setDflt (σ) (p : P) (d) : evalPt σ (setDflt p d) = evalPt σ p := by cases p <;> rfl
@[simp] theorem evalPt_setPrio (σ) (p : P) (q) : evalPt σ (setPrio p q) = evalPt σ p := by cases p <;> rfl

theorem mkAny_eq (args : List (Bool × P)) (oid : Option String) (cls : Cls) :
    mkAny args oid cls = .node (oid.getD (genId (sortById (orderArgs args)) 1 none)) ⟨0, 1⟩ 1 1 (sortById (orderArgs args))
      { cls := cls, gen := oid.isNone } := by
  simp only [mkAny, mkAtLeast_eq, varOf_id, varOf_bnd, varOf_isNone, sgnOf_one]

theorem mkAll_eq (args : List (Bool × P)) (oid : Option String) (cls : Cls) :
    mkAll args oid cls = .node (oid.getD (genId (sortById (orderArgs args)) (distinctCount args) none)) ⟨0, 1⟩
      (sgnOf (distinctCount args) none) (distinctCount args) (sortById (orderArgs args)) { cls := cls, gen := oid.isNone } := by
  simp only [mkAll, mkAtLeast_eq, varOf_id, varOf_bnd, varOf_isNone]

theorem mkAtMost_eq (v : Int) (ks : List P) (var : Option (String × Bnd)) :
    mkAtMost v ks var = .node ((var.map (·.1)).getD (genId (sortById ks) (-v) (some (-1)))) ((var.map (·.2)).getD ⟨0, 1⟩) (-1) (-v)
      (sortById ks) { cls := .atMost, gen := var.isNone } := by
  simp only [mkAtMost, mkAtLeast_eq, sgnOf_some]

theorem mkNot_eq (isAtom : Bool) (a : Bool × P) : mkNot isAtom a = negate (if isAtom then mkAll [a] none else a.2) := by
  cases isAtom <;> rfl

/-- not by `rfl`: `simp` would then leave the step to the kernel, which compares through `negate` -/
theorem mkNot_false (a : Bool × P) : mkNot false a = negate a.2 := by rw [mkNot_eq, if_neg Bool.false_ne_true]

theorem mkNot_isLeaf (isAtom : Bool) (a : Bool × P) : (mkNot isAtom a).isLeaf = (!isAtom && a.2.isLeaf) := by
  cases isAtom <;> simp [mkNot, mkAll, negate_isLeaf]

/-- whether the consequence was a bare string does not enter -/
theorem mkImply_eq (cAtom : Bool) (c d : Bool × P) (oid : Option String) :
    mkImply cAtom c d oid = .node (oid.getD (genId (sortById [mkNot cAtom c, d.2]) 1 none)) ⟨0, 1⟩ 1 1 (sortById [mkNot cAtom c, d.2])
      { cls := .imply, gen := oid.isNone, cond := (sortById [mkNot cAtom c, d.2]).findIdx (fun k => k.id == (mkNot cAtom c).id) } := by
  have ho : orderArgs [(false, mkNot cAtom c), d] = [mkNot cAtom c, d.2] := by rcases d with ⟨_ | _, p⟩ <;> rfl
  simp only [mkImply, mkAny_eq, ho, setCond]

/-- `cond` is where the negated "at most one" half stands -/
theorem mkXNor_eq (args : List (Bool × P)) (oid : Option String) :
    mkXNor args oid =
      .node (oid.getD (genId (sortById [negate (mkAtLeast 1 (orderArgs args) none none), negate (mkAtMost 1 (orderArgs args) none)]) 1 none))
        ⟨0, 1⟩ 1 1 (sortById [negate (mkAtLeast 1 (orderArgs args) none none), negate (mkAtMost 1 (orderArgs args) none)])
        { cls := .xnor, gen := oid.isNone,
          cond := (sortById [negate (mkAtLeast 1 (orderArgs args) none none), negate (mkAtMost 1 (orderArgs args) none)]).findIdx
            (fun k => k.id == (negate (mkAtMost 1 (orderArgs args) none)).id) } := by
  rw [mkXNor, mkAny_eq]; rfl

theorem beq_mkAtLeast_mkAtMost (ks : List P) : beq (mkAtLeast 1 ks none none) (mkAtMost 1 ks none) = false := by
  simp [mkAtMost, mkAtLeast_eq, beq]

/-- `Xor(*args)` is "both halves hold": the two halves differ, so `All` counts two -/
theorem mkXor_eq (args : List (Bool × P)) (oid : Option String) (cls : Cls) :
    mkXor args oid cls =
      mkAtLeast 2 [mkAtLeast 1 (orderArgs args) none none, mkAtMost 1 (orderArgs args) none] (varOf oid) none cls := by
  simp [mkXor, mkAll, distinctCount, beq_mkAtLeast_mkAtMost, orderArgs]

/-- a negative node is negated flat: the same children under a positive sign -/
theorem negate_mkAtMost_none (k : Int) (ks : List P) :
    negate (mkAtMost k ks none) =
      .node (genId (sortById ks) (1 + k) (some 1)) ⟨0, 1⟩ 1 (1 + k) (sortById ks) { gen := true } := by
  have hp : negPush (-1) (-k) (sortById ks) = none := negPush_none fun h => absurd h.1 (by decide)
  simp [mkAtMost_eq, negate_node, hp, negId, negBnd, Int.sub_neg]

/-- what `negate_compl` asks of a model and an assignment: signs ±1, the assignment inside the leaf bounds -/
def Good (σ : String → Int) (p : P) : Prop := SignOk p ∧ InB σ p
def GoodL (σ : String → Int) (ks : List P) : Prop := SignOks ks ∧ InBs σ ks

theorem GoodL_iff (σ) (ks : List P) : GoodL σ ks ↔ ∀ k ∈ ks, Good σ k := by
  simp only [GoodL, Good, SignOks_iff, InBs_iff]
  exact ⟨fun h k hk => ⟨h.1 k hk, h.2 k hk⟩, fun h => ⟨fun k hk => (h k hk).1, fun k hk => (h k hk).2⟩⟩

theorem GoodL_append (σ) (a b : List P) : GoodL σ (a ++ b) ↔ GoodL σ a ∧ GoodL σ b := by
  simp only [GoodL_iff, List.forall_mem_append]

theorem goodL_args {σ} {args : List (Bool × P)} : GoodL σ (args.map (·.2)) ↔ ∀ x ∈ args, Good σ x.2 :=
  (GoodL_iff σ _).trans forall_args

theorem goodL_perm (σ) {l1 l2 : List P} (h : l1.Perm l2) : GoodL σ l1 ↔ GoodL σ l2 := by
  simp only [GoodL_iff, h.mem_iff]

theorem good_node {σ i b s v} {ks : List P} {m} (hs : s = 1 ∨ s = -1) (h : GoodL σ ks) : Good σ (.node i b s v ks m) :=
  ⟨⟨hs, h.1⟩, h.2⟩

theorem good_kids {σ i b s v} {ks : List P} {m} (h : Good σ (.node i b s v ks m)) : (s = 1 ∨ s = -1) ∧ GoodL σ ks :=
  ⟨h.1.1, h.1.2, h.2⟩

theorem good_node_iff {σ i b s v} {ks : List P} {m} :
    Good σ (.node i b s v ks m) ↔ (s = 1 ∨ s = -1) ∧ ∀ k ∈ ks, Good σ k :=
  ⟨fun h => (good_kids h).imp_right (GoodL_iff σ ks).1, fun h => good_node h.1 ((GoodL_iff σ ks).2 h.2)⟩

theorem good_negate (σ) : ∀ p, Good σ p → Good σ (negate p) :=
  negate_preserves (kids := fun h => (good_node_iff.1 h).2) (grp := fun _ hl => good_node_iff.2 ⟨.inr rfl, hl⟩)
    (hdr := fun _ _ _ _ h hs hk => good_node_iff.2 ⟨by have := (good_node_iff.1 h).1; omega, hk⟩)

theorem good_negPairs (σ) : ∀ ks, GoodL σ ks → ∀ p ∈ negPairs ks, Good σ p.2 := by
  intro ks h p hp
  obtain ⟨k, hk, _, e⟩ := mem_negPairs hp
  exact e ▸ good_negate σ k ((GoodL_iff σ ks).1 h k hk)

end P

namespace Ast
open P

def args : Ast → List Ast
  | .var .. | .str .. => []
  | .atLeast _ as _ _ | .atMost _ as _ | .all as _ | .any as _ | .xor as _ _ | .xnor as _
  | .ccAny as _ _ | .ccXor as _ _ | .stingy as _ => as
  | .imply c d _ => [c, d]
  | .not a => [a]

/-- with the hypothesis for all arguments at once, a theorem about `build` need not be a mutual pair with one about
    `buildL` -/
theorem ind {motive : Ast → Prop} (h : ∀ a, (∀ c ∈ a.args, motive c) → motive a) (a : Ast) : motive a :=
  Ast.rec (motive_1 := motive) (motive_2 := fun as => ∀ c ∈ as, motive c)
    (fun _ _ => h _ fun _ hc => nomatch hc) (fun _ => h _ fun _ hc => nomatch hc)
    (fun _ _ _ _ ih => h _ ih) (fun _ _ _ ih => h _ ih) (fun _ _ ih => h _ ih) (fun _ _ ih => h _ ih)
    (fun _ _ _ ih => h _ ih) (fun _ _ ih => h _ ih)
    (fun _ _ _ hc hd => h _ (by simp [args, hc, hd])) (fun _ ha => h _ (by simp [args, ha]))
    (fun _ _ _ ih => h _ ih) (fun _ _ _ ih => h _ ih) (fun _ _ ih => h _ ih)
    (fun _ hc => nomatch hc) (fun _ _ ha ih => List.forall_mem_cons.2 ⟨ha, ih⟩) a

theorem buildL_eq_map : ∀ as : List Ast, buildL as = as.map (fun a => (a.isStr, build a)) :=
  map_of_rec rfl fun _ _ => rfl

theorem forall_buildL {Q : P → Prop} {as : List Ast} : (∀ x ∈ buildL as, Q x.2) ↔ ∀ a ∈ as, Q (build a) := by
  rw [buildL_eq_map]; exact List.forall_mem_map

theorem buildL_snd (as : List Ast) : (buildL as).map (·.2) = as.map build := by
  rw [buildL_eq_map, List.map_map]; rfl

theorem buildL_length (as : List Ast) : (buildL as).length = as.length := by rw [buildL_eq_map, List.length_map]

theorem buildL_append (as bs : List Ast) : buildL (as ++ bs) = buildL as ++ buildL bs := by
  simp only [buildL_eq_map, List.map_append]

end Ast
end Puan
