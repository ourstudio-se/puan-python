/-
  The bounded search `reach` of Model/Errors.lean, for any graph given as a list of entries.  What it returns is
  reached from where it started (`reach_ind`); with one round more than there are entries it returns a set closed
  under the edges (`reach_closed`, `pot_le_length`): every round that does not end the search expands an entry not
  expanded before, so the search ends because nothing new turns up, and `Inv` with an empty frontier says that what
  has been seen is closed.  In namespace `Puan.C10` because the statements of C10 mention `succ` and `Path`.
-/
import Puan.Model.Errors
import Puan.Lemmas.List
namespace Puan.C10
open Puan P

/-- the ids a node's entry lists (its children) -/
def succ (g : List (String × List String)) (a : String) : List String := (dictLookup g a).getD []

/-- a non-empty path along the edges of the id graph -/
inductive Path (g : List (String × List String)) : String → String → Prop
  | edge {a b : String} : b ∈ succ g a → Path g a b
  | step {a b c : String} : b ∈ succ g a → Path g b c → Path g a c

theorem Path.snoc {g a b c} (hp : Path g a b) (h : c ∈ succ g b) : Path g a c := by
  induction hp with
  | edge h' => exact .step h' (.edge h)
  | step h' _ ih => exact .step h' (ih h)

theorem closed_path {g} {R : List String} (hcl : ∀ a ∈ R, ∀ b ∈ succ g a, b ∈ R) {a b} (hp : Path g a b) :
    a ∈ R → b ∈ R := by
  induction hp with
  | edge h => exact fun ha => hcl _ ha _ h
  | step h _ ih => exact fun ha => ih (hcl _ ha _ h)

theorem path_decreases {g} (meas : String → Nat) (hedge : ∀ a, ∀ b ∈ succ g a, meas b < meas a) {a b}
    (hp : Path g a b) : meas b < meas a := by
  induction hp with
  | edge h => exact hedge _ _ h
  | step h _ ih => exact Nat.lt_trans ih (hedge _ _ h)

theorem succ_entry {g : List (String × List String)} {a b : String} (h : b ∈ succ g a) : ∃ l, (a, l) ∈ g ∧ b ∈ l := by
  unfold succ dictLookup at h
  cases hf : g.reverse.find? (fun e => e.1 == a) with
  | none => simp [hf] at h
  | some e =>
      have he1 : e.1 = a := by simpa using List.find?_some hf
      exact ⟨e.2, he1 ▸ List.mem_reverse.1 (List.mem_of_find?_eq_some hf), by simpa [hf] using h⟩

/-- the ids one round of the search adds -/
def fresh (g : List (String × List String)) (seen frontier : List String) : List String :=
  ((frontier.flatMap (succ g)).eraseDups).filter (fun k => !seen.contains k)

theorem mem_fresh {g seen frontier y} : y ∈ fresh g seen frontier ↔ (∃ a ∈ frontier, y ∈ succ g a) ∧ y ∉ seen := by
  simp [fresh, List.mem_eraseDups]

theorem reach_succ (g fuel seen frontier) : reach g (fuel + 1) seen frontier =
    if (fresh g seen frontier).isEmpty then seen
    else reach g fuel (seen ++ fresh g seen frontier) (fresh g seen frontier) := rfl

theorem reach_ind (g) (Q : String → Prop) (hQ : ∀ a, Q a → ∀ b ∈ succ g a, Q b) :
    ∀ (fuel : Nat) (seen frontier : List String), (∀ x ∈ seen, Q x) → (∀ x ∈ frontier, Q x) →
      ∀ x ∈ reach g fuel seen frontier, Q x
  | 0, _, _, hs, _ => hs
  | fuel + 1, seen, frontier, hs, hf => by
      have hn : ∀ y ∈ fresh g seen frontier, Q y := fun y hy =>
        let ⟨⟨a, ha, hya⟩, _⟩ := mem_fresh.1 hy; hQ a (hf a ha) y hya
      rw [reach_succ]; split
      · exact hs
      · exact reach_ind g Q hQ fuel _ _ (fun x hx => (List.mem_append.1 hx).elim (hs x) (hn x)) hn

def Inv (g : List (String × List String)) (seen frontier : List String) : Prop :=
  (∀ x ∈ frontier, x ∈ seen) ∧ ∀ a ∈ seen, a ∉ frontier → ∀ b ∈ succ g a, b ∈ seen

theorem inv_fresh {g seen frontier} (h : Inv g seen frontier) :
    Inv g (seen ++ fresh g seen frontier) (fresh g seen frontier) := by
  refine ⟨fun x hx => List.mem_append_right _ hx, fun a ha hna b hb => ?_⟩
  have has : a ∈ seen := (List.mem_append.1 ha).resolve_right hna
  by_cases hbs : b ∈ seen
  · exact List.mem_append_left _ hbs
  · by_cases haf : a ∈ frontier
    · exact List.mem_append_right _ (mem_fresh.2 ⟨⟨a, haf, hb⟩, hbs⟩)
    · exact absurd (h.2 a has haf b hb) hbs

/-- the number of entries not expanded yet (expanded: seen and no longer in the frontier) -/
def pot (g : List (String × List String)) (seen frontier : List String) : Nat :=
  ((g.map (·.1)).filter (fun k => !(seen.contains k && !frontier.contains k))).length

theorem pot_le_length (g seen frontier) : pot g seen frontier ≤ g.length :=
  Nat.le_trans (List.length_filter_le _ _) (by simp)

theorem pot_fresh {g seen frontier} (h : Inv g seen frontier) (hne : fresh g seen frontier ≠ []) :
    pot g (seen ++ fresh g seen frontier) (fresh g seen frontier) < pot g seen frontier := by
  -- some id is new, so some node of the frontier has an entry: it is expanded in this round
  obtain ⟨y, hy⟩ := List.exists_mem_of_ne_nil _ hne
  obtain ⟨⟨k, hk, hyk⟩, _⟩ := mem_fresh.1 hy
  obtain ⟨l, hl, _⟩ := succ_entry hyk
  have hnew : ∀ x, x ∈ fresh g seen frontier → x ∉ seen := fun x hx => (mem_fresh.1 hx).2
  refine List.filter_length_lt _ _ _ (fun x hx => ?_) ⟨k, List.mem_map.2 ⟨_, hl, rfl⟩, ?_, ?_⟩
  · simp only [Bool.not_eq_true', Bool.and_eq_false_iff, List.contains_eq_mem, decide_eq_false_iff_not,
      Bool.not_eq_false', decide_eq_true_eq, List.mem_append, not_or] at hx ⊢
    rcases hx with h' | h'
    · exact .inl h'.1
    · exact .inl (hnew x h')
  · simp [hk]
  · simpa [h.1 k hk] using fun hkf => hnew k hkf (h.1 k hk)

theorem reach_closed (g : List (String × List String)) : ∀ (fuel : Nat) (seen frontier : List String),
    Inv g seen frontier → pot g seen frontier < fuel →
    (∀ x ∈ seen, x ∈ reach g fuel seen frontier) ∧
    (∀ a ∈ reach g fuel seen frontier, ∀ b ∈ succ g a, b ∈ reach g fuel seen frontier)
  | 0, _, _, _, hp => by omega
  | fuel + 1, seen, frontier, hI, hp => by
      have hI' := inv_fresh hI
      rw [reach_succ]; split
      · rename_i h0
        rw [List.isEmpty_iff.1 h0, List.append_nil] at hI'
        exact ⟨fun _ hx => hx, fun a ha => hI'.2 a ha (List.not_mem_nil)⟩
      · rename_i h0
        have ih := reach_closed g fuel _ _ hI' (by have := pot_fresh hI (by simpa using h0); omega)
        exact ⟨fun x hx => ih.1 x (List.mem_append_left _ hx), ih.2⟩

end Puan.C10
