/-
  Interval evaluation (`assume`): soundness w.r.t. the point semantics, exactness on total interpretations,
  monotonicity, well-formedness.
  The sums over the children are read as `(ks.map f).sum` (`sumLo_eq` …), so that what the four theorems need of
  them is `List.sum_map_le` and four facts about the signed ends of one interval.
-/
import Puan.Model.Eval
import Puan.Lemmas.Tree
namespace Puan
namespace P

theorem assumeL_eq_map (I : Interp) (ks : List P) : assumeL I ks = ks.map (assume I) :=
  map_of_rec rfl (fun _ _ => rfl) ks
theorem sumOv_eq (I σ) (ks : List P) : sumOv I σ ks = (ks.map (evalOv I σ)).sum :=
  sum_of_rec rfl (fun _ _ => rfl) ks
theorem sumLo_eq (s) (ks : List P) : sumLo s ks = (ks.map fun k => sLo s k.bnd).sum :=
  sum_of_rec rfl (fun _ _ => rfl) ks
theorem sumHi_eq (s) (ks : List P) : sumHi s ks = (ks.map fun k => sHi s k.bnd).sum :=
  sum_of_rec rfl (fun _ _ => rfl) ks

theorem assumeL_append (I : Interp) (a b : List P) : assumeL I (a ++ b) = assumeL I a ++ assumeL I b := by
  simp only [assumeL_eq_map, List.map_append]
theorem sumLo_append (s) (a b : List P) : sumLo s (a ++ b) = sumLo s a + sumLo s b := by
  simp only [sumLo_eq, List.map_append, List.sum_append_int]
theorem sumHi_append (s) (a b : List P) : sumHi s (a ++ b) = sumHi s a + sumHi s b := by
  simp only [sumHi_eq, List.map_append, List.sum_append_int]

theorem sortById_perm (l : List P) : (sortById l).Perm l := List.mergeSort_perm l _

@[simp] theorem mem_sortById {k : P} {l : List P} : k ∈ sortById l ↔ k ∈ l := (sortById_perm l).mem_iff

theorem sortById_sorted (l : List P) : (sortById l).Pairwise (fun a b => decide (a.id ≤ b.id) = true) :=
  List.pairwise_mergeSort (fun _ _ _ h1 h2 => by simp only [decide_eq_true_eq] at *; exact String.le_trans h1 h2)
    (fun a b => by simp only [Bool.or_eq_true, decide_eq_true_eq]; exact String.le_total a.id b.id) l

@[simp] theorem sortById_idem (l : List P) : sortById (sortById l) = sortById l :=
  List.mergeSort_of_pairwise (sortById_sorted l)

@[simp] theorem sortById_single (k : P) : sortById [k] = [k] := List.perm_singleton.1 (sortById_perm [k])

theorem sumLo_perm (s) {l1 l2 : List P} (h : l1.Perm l2) : sumLo s l1 = sumLo s l2 := by
  simp only [sumLo_eq]; exact (h.map _).sum_int
theorem sumHi_perm (s) {l1 l2 : List P} (h : l1.Perm l2) : sumHi s l1 = sumHi s l2 := by
  simp only [sumHi_eq]; exact (h.map _).sum_int

theorem sumPt_sort (σ) (l : List P) : sumPt σ (sortById l) = sumPt σ l := sumPt_perm σ (sortById_perm l)

theorem sums_congr {α} {ks : List α} {f g : α → P} (s) (h : ∀ k ∈ ks, (f k).bnd = (g k).bnd) :
    sumLo s (ks.map f) = sumLo s (ks.map g) ∧ sumHi s (ks.map f) = sumHi s (ks.map g) := by
  simp only [sumLo_eq, sumHi_eq, List.map_map]
  constructor <;> refine congrArg _ (List.map_congr_left fun k hk => ?_) <;> simp only [Function.comp, h k hk]

theorem assume_id (I : Interp) : ∀ p, (assume I p).id = p.id
  | .leaf i b => by simp [assume, id]
  | .node i b s v ks m => by
      simp only [assume]; split <;> simp [id]

/-! ### the signed ends `sLo`/`sHi`: monotone for inclusion and well-formed whatever `s` is, exact (on points, hence on
    members) only for ±1, since for `s > 0` the model takes the ends unscaled -/

theorem sLo_sHi_sub (s : Int) {b1 b2 : Bnd} (h : b1.sub b2) : sLo s b2 ≤ sLo s b1 ∧ sHi s b1 ≤ sHi s b2 := by
  unfold sLo sHi; split
  · exact h
  · exact ⟨Int.mul_le_mul_of_nonpos_right h.2 (by omega), Int.mul_le_mul_of_nonpos_right h.1 (by omega)⟩
theorem sLo_le_sHi (s : Int) {b : Bnd} (h : b.wf) : sLo s b ≤ sHi s b := by
  unfold sLo sHi; split
  · exact h
  · exact Int.mul_le_mul_of_nonpos_right h (by omega)

section
variable {s : Int} (hs : s = 1 ∨ s = -1)
include hs
theorem sLo_sHi_mem {x : Int} {b : Bnd} (h : b.mem x) : sLo s b ≤ s * x ∧ s * x ≤ sHi s b := by
  unfold Bnd.mem at h; rcases hs with rfl | rfl <;> simp [sLo, sHi] <;> omega
theorem sLo_sHi_pt (x : Int) : sLo s (.pt x) = s * x ∧ sHi s (.pt x) = s * x := by
  rcases hs with rfl | rfl <;> simp [sLo, sHi, Bnd.pt] <;> omega
end

section
variable {α : Type} {ks : List α} {f g : α → P} {s : Int}

theorem sums_sub (s) (h : ∀ k ∈ ks, (f k).bnd.sub (g k).bnd) :
    sumLo s (ks.map g) ≤ sumLo s (ks.map f) ∧ sumHi s (ks.map f) ≤ sumHi s (ks.map g) := by
  simp only [sumLo_eq, sumHi_eq, List.map_map]
  exact ⟨List.sum_map_le fun k hk => (sLo_sHi_sub s (h k hk)).1, List.sum_map_le fun k hk => (sLo_sHi_sub s (h k hk)).2⟩
theorem sums_wf (s) (h : ∀ k ∈ ks, (f k).bnd.wf) : sumLo s (ks.map f) ≤ sumHi s (ks.map f) := by
  simp only [sumLo_eq, sumHi_eq, List.map_map]
  exact List.sum_map_le fun k hk => sLo_le_sHi s (h k hk)
theorem sums_mem (hs : s = 1 ∨ s = -1) {x : α → Int} (h : ∀ k ∈ ks, (f k).bnd.mem (x k)) :
    sumLo s (ks.map f) ≤ s * (ks.map x).sum ∧ s * (ks.map x).sum ≤ sumHi s (ks.map f) := by
  simp only [sumLo_eq, sumHi_eq, List.map_map, ← List.sum_map_mul_left]
  exact ⟨List.sum_map_le fun k hk => (sLo_sHi_mem hs (h k hk)).1, List.sum_map_le fun k hk => (sLo_sHi_mem hs (h k hk)).2⟩
theorem sums_pt (hs : s = 1 ∨ s = -1) {x : α → Int} (h : ∀ k ∈ ks, (f k).bnd = .pt (x k)) :
    sumLo s (ks.map f) = s * (ks.map x).sum ∧ sumHi s (ks.map f) = s * (ks.map x).sum := by
  simp only [sumLo_eq, sumHi_eq, List.map_map, ← List.sum_map_mul_left]
  constructor <;> refine congrArg _ (List.map_congr_left fun k hk => ?_) <;>
    simp only [Function.comp, h k hk, sLo_sHi_pt hs]
end

theorem ge01_mono {v x y : Int} (h : x ≤ y) : (if x ≥ v then (1 : Int) else 0) ≤ if y ≥ v then 1 else 0 := by
  split <;> split <;> omega

theorem thr_mem {s v : Int} {ks : List P} {e : Int} (h : sumLo s ks ≤ s * e ∧ s * e ≤ sumHi s ks) :
    Bnd.mem (if s * e ≥ v then 1 else 0) (thr s v ks) := ⟨ge01_mono h.1, ge01_mono h.2⟩

theorem thr_wf (s v ks) (h : sumLo s ks ≤ sumHi s ks) : (thr s v ks).wf := ge01_mono h

theorem thr_sub (s v : Int) (k1 k2 : List P) (h : sumLo s k2 ≤ sumLo s k1 ∧ sumHi s k1 ≤ sumHi s k2) :
    (thr s v k1).sub (thr s v k2) := ⟨ge01_mono h.1, ge01_mono h.2⟩

theorem thr_congr (s v : Int) {k1 k2 : List P} (h : sumLo s k1 = sumLo s k2 ∧ sumHi s k1 = sumHi s k2) :
    thr s v k1 = thr s v k2 := by simp only [thr, h.1, h.2]

theorem assume_node_bnd (I : Interp) (i b s v ks m) :
    (assume I (.node i b s v ks m)).bnd =
      if ((I i).getD b).lo = ((I i).getD b).hi then (I i).getD b else thr s v (assumeL I ks) := by
  simp only [assume]; split <;> rfl

/-! ### σ is a completion of `I` on the leaves of a tree -/
mutual
def Compl (I : Interp) (σ : String → Int) : P → Prop
  | .leaf i b => ((I i).getD b).lo ≤ σ i ∧ σ i ≤ ((I i).getD b).hi
  | .node _ _ _ _ ks _ => ComplL I σ ks
def ComplL (I : Interp) (σ : String → Int) : List P → Prop
  | [] => True
  | k :: ks => Compl I σ k ∧ ComplL I σ ks
end

@[simp] theorem ComplL_iff (I σ) (ks : List P) : ComplL I σ ks ↔ ∀ k ∈ ks, Compl I σ k :=
  forall_of_rec Iff.rfl (fun _ _ => Iff.rfl) ks

theorem assume_sound (I σ) (p : P) : SignOk p → Compl I σ p → Bnd.mem (evalOv I σ p) (assume I p).bnd := by
  induction p with
  | leaf i b => exact fun _ hc => hc
  | node i b s v ks m ih =>
      simp only [SignOk, SignOks_iff, Compl, ComplL_iff, assume, evalOv, assumeL_eq_map, sumOv_eq]
      intro hs hc; split
      · simp [bnd, Bnd.mem, *]
      · exact thr_mem (sums_mem hs.1 fun k hk => ih k hk (hs.2 k hk) (hc k hk))

theorem soundL (I σ) (s : Int) (hs : s = 1 ∨ s = -1) : ∀ ks, SignOks ks → ComplL I σ ks →
    sumLo s (assumeL I ks) ≤ s * sumOv I σ ks ∧ s * sumOv I σ ks ≤ sumHi s (assumeL I ks) := by
  simp only [SignOks_iff, ComplL_iff, assumeL_eq_map, sumOv_eq]
  exact fun ks h1 h2 => sums_mem hs fun k hk => assume_sound I σ k (h1 k hk) (h2 k hk)

/-! ### total interpretations: every leaf a constant -/
mutual
def Total (I : Interp) (σ : String → Int) : P → Prop
  | .leaf i _ => I i = some ⟨σ i, σ i⟩
  | .node _ _ _ _ ks _ => TotalL I σ ks
def TotalL (I : Interp) (σ : String → Int) : List P → Prop
  | [] => True
  | k :: ks => Total I σ k ∧ TotalL I σ ks
end

@[simp] theorem TotalL_iff (I σ) (ks : List P) : TotalL I σ ks ↔ ∀ k ∈ ks, Total I σ k :=
  forall_of_rec Iff.rfl (fun _ _ => Iff.rfl) ks

theorem assume_exact (I σ) (p : P) : SignOk p → Total I σ p → (assume I p).bnd = Bnd.pt (evalOv I σ p) := by
  induction p with
  | leaf i b => intro _ h; simp only [Total] at h; simp [assume, bnd, evalOv, Bnd.pt, h]
  | node i b s v ks m ih =>
      simp only [SignOk, SignOks_iff, Total, TotalL_iff, assume, evalOv, assumeL_eq_map, sumOv_eq]
      intro hs ht; split
      · rename_i heq; exact congrArg (Bnd.mk _) heq.symm
      · have ⟨h1, h2⟩ := sums_pt hs.1 fun k hk => ih k hk (hs.2 k hk) (ht k hk)
        simp only [bnd, thr, Bnd.pt, h1, h2]

theorem exactL (I σ) (s : Int) (hs : s = 1 ∨ s = -1) : ∀ ks, SignOks ks → TotalL I σ ks →
    sumLo s (assumeL I ks) = s * sumOv I σ ks ∧ sumHi s (assumeL I ks) = s * sumOv I σ ks := by
  simp only [SignOks_iff, TotalL_iff, assumeL_eq_map, sumOv_eq]
  exact fun ks h1 h2 => sums_pt hs fun k hk => assume_exact I σ k (h1 k hk) (h2 k hk)

def IWf (I : Interp) : Prop := ∀ i b, I i = some b → b.wf

mutual
def DeclWf : P → Prop
  | .leaf _ b => b.wf
  | .node _ b _ _ ks _ => b.wf ∧ DeclWfL ks
def DeclWfL : List P → Prop
  | [] => True
  | k :: ks => DeclWf k ∧ DeclWfL ks
end

@[simp] theorem DeclWfL_iff (ks : List P) : DeclWfL ks ↔ ∀ k ∈ ks, DeclWf k :=
  forall_of_rec Iff.rfl (fun _ _ => Iff.rfl) ks

theorem getD_wf (I : Interp) (hI : IWf I) (i) (b : Bnd) (hb : b.wf) : ((I i).getD b).wf := by
  cases h : I i with
  | none => simpa [h] using hb
  | some b' => simpa [h] using hI i b' h

/-- needs no condition on the signs -/
theorem evalB_wf (I) (hI : IWf I) (p : P) : DeclWf p → (assume I p).bnd.wf := by
  induction p with
  | leaf i b => exact getD_wf I hI i b
  | node i b s v ks m ih =>
      simp only [DeclWf, DeclWfL_iff, assume, assumeL_eq_map]
      intro hd; split
      · exact getD_wf I hI i b hd.1
      · exact thr_wf s v _ (sums_wf s fun k hk => ih k hk (hd.2 k hk))

theorem assume_wf (I) (hI : IWf I) : ∀ p, SignOk p → DeclWf p → (assume I p).bnd.wf :=
  fun p _ => evalB_wf I hI p

mutual
/-- `J` narrows `A` on the leaves; on compound ids the two are equal: a constant entry for a compound id overrides the
    computed bounds, so narrowing such an entry need not narrow the result -/
def Refines (A J : Interp) : P → Prop
  | .leaf i b => ((J i).getD b).sub ((A i).getD b)
  | .node i _ _ _ ks _ => J i = A i ∧ RefinesL A J ks
def RefinesL (A J : Interp) : List P → Prop
  | [] => True
  | k :: ks => Refines A J k ∧ RefinesL A J ks
end

@[simp] theorem RefinesL_iff (A J) (ks : List P) : RefinesL A J ks ↔ ∀ k ∈ ks, Refines A J k :=
  forall_of_rec Iff.rfl (fun _ _ => Iff.rfl) ks

theorem assume_mono (A J) (p : P) : Refines A J p → ((assume J p).bnd).sub (assume A p).bnd := by
  induction p with
  | leaf i b => exact fun h => h
  | node i b s v ks m ih =>
      simp only [Refines, RefinesL_iff, assume, assumeL_eq_map]
      intro h; rw [h.1]; split
      · exact ⟨Int.le_refl _, Int.le_refl _⟩
      · exact thr_sub s v _ _ (sums_sub s fun k hk => ih k hk (h.2 k hk))

end P
end Puan
