/-
  `n_row_combinations`: the restrictions of the in-box points to a row's non-zero columns,
  enumerated without duplicates; their number is the product the code reports.
-/
import Puan.Lemmas.Poly
namespace Puan
namespace Poly

/-- the integers lo, lo+1, …, hi -/
def rangeI (lo hi : Int) : List Int := (List.range (hi - lo + 1).toNat).map (fun (k : Nat) => lo + (k : Int))

/-- a point restricted to the non-zero columns of a row -/
def restr : List Int → List Int → List (Option Int)
  | c :: cs, x :: xs => (if c != 0 then some x else none) :: restr cs xs
  | _, _ => []

def colOpts (c : Int) (b : Bnd) : List (Option Int) := if c != 0 then (rangeI b.lo b.hi).map some else [none]

def restrPts : List Int → List Bnd → List (List (Option Int))
  | c :: cs, b :: bs => (colOpts c b).flatMap (fun o => (restrPts cs bs).map (o :: ·))
  | _, _ => [[]]

theorem mem_rangeI (lo hi x : Int) : x ∈ rangeI lo hi ↔ lo ≤ x ∧ x ≤ hi := by
  unfold rangeI
  simp only [List.mem_map, List.mem_range]
  constructor
  · rintro ⟨k, hk, rfl⟩; omega
  · intro ⟨h1, h2⟩
    exact ⟨(x - lo).toNat, by omega, by omega⟩

theorem length_rangeI (lo hi : Int) (h : lo ≤ hi) : ((rangeI lo hi).length : Int) = hi - lo + 1 := by
  unfold rangeI; simp; omega

theorem nodup_rangeI (lo hi : Int) : (rangeI lo hi).Nodup :=
  List.nodup_range.map _ fun _ _ h => by omega

/-- in the shape `restr` produces, so that `mem_restrPts` matches it without a case split -/
theorem mem_colOpts {c : Int} {b : Bnd} (hw : b.lo ≤ b.hi) {o : Option Int} :
    o ∈ colOpts c b ↔ ∃ x, (b.lo ≤ x ∧ x ≤ b.hi) ∧ (if c != 0 then some x else none) = o := by
  unfold colOpts; split
  · simp [mem_rangeI]
  · simpa [eq_comm] using fun _ => ⟨b.lo, Int.le_refl _, hw⟩

theorem nodup_colOpts (c : Int) (b : Bnd) : (colOpts c b).Nodup := by
  unfold colOpts
  split
  · exact (nodup_rangeI b.lo b.hi).map _ fun _ _ h e => h (Option.some.inj e)
  · simp

theorem length_colOpts (c : Int) (b : Bnd) (h : b.lo ≤ b.hi) :
    ((colOpts c b).length : Int) = if c != 0 then b.hi - b.lo + 1 else 1 := by
  unfold colOpts
  split
  · simp [length_rangeI b.lo b.hi h]
  · simp

theorem length_flatMap_map {α β} (f : α → β → β) : ∀ (os : List α) (l : List β),
    (os.flatMap (fun o => l.map (f o))).length = os.length * l.length
  | [], _ => by simp
  | o :: os, l => by
      simp only [List.flatMap_cons, List.length_append, List.length_map, length_flatMap_map f os l, List.length_cons]
      rw [Nat.add_mul, Nat.one_mul, Nat.add_comm]

theorem restrPts_length : ∀ (cs : List Int) (bs : List Bnd), WfB bs →
    ((restrPts cs bs).length : Int) = nComb cs bs
  | [], _, _ => rfl
  | _ :: _, [], _ => rfl
  | c :: cs, b :: bs, hw => by
      have ih := restrPts_length cs bs hw.2
      simp only [restrPts, nComb, length_flatMap_map (fun (o : Option Int) r => o :: r)]
      rw [Int.natCast_mul, ih, length_colOpts c b hw.1]

theorem restrPts_nodup : ∀ (cs : List Int) (bs : List Bnd), (restrPts cs bs).Nodup
  | [], _ => by simp [restrPts]
  | _ :: _, [] => by simp [restrPts]
  | c :: cs, b :: bs => by
      simp only [restrPts]
      refine List.pairwise_flatMap.2 ⟨fun o _ => (restrPts_nodup cs bs).map _ fun _ _ h e => h (List.cons.inj e).2, ?_⟩
      -- lists built from different heads differ
      refine (nodup_colOpts c b).imp fun {o o'} h r hr r' hr' e => ?_
      obtain ⟨_, _, rfl⟩ := List.mem_map.1 hr
      obtain ⟨_, _, rfl⟩ := List.mem_map.1 hr'
      exact h (List.cons.inj e).1

theorem mem_restrPts : ∀ (cs : List Int) (bs : List Bnd), WfB bs →
    ∀ r, r ∈ restrPts cs bs ↔ ∃ xs, InBox xs bs ∧ restr cs xs = r
  | [], bs, hw, r => by
      -- some point is in the box (`WfB`): the one at which the empty row attains its lower bound
      obtain ⟨xs, hx, _⟩ := (rb_attained [] bs hw).1
      simp only [restrPts, List.mem_singleton]
      exact ⟨fun e => ⟨xs, hx, by cases xs <;> exact e.symm⟩, fun ⟨ys, _, e⟩ => by cases ys <;> exact e.symm⟩
  | _ :: _, [], _, r => by
      simp only [restrPts, List.mem_singleton]
      exact ⟨fun e => ⟨[], trivial, e.symm⟩, fun ⟨ys, h, e⟩ => by cases ys with | nil => exact e.symm | cons _ _ => cases h⟩
  | c :: cs, b :: bs, hw, r => by
      simp only [restrPts, List.mem_flatMap, List.mem_map, mem_colOpts hw.1, mem_restrPts cs bs hw.2]
      constructor
      · rintro ⟨_, ⟨x, hx, rfl⟩, _, ⟨xs, hxs, rfl⟩, rfl⟩
        exact ⟨x :: xs, ⟨hx, hxs⟩, rfl⟩
      · rintro ⟨_ | ⟨x, xs⟩, hb, rfl⟩
        · cases hb
        · exact ⟨_, ⟨x, hb.1, rfl⟩, _, ⟨xs, hb.2, rfl⟩, rfl⟩

end Poly
end Puan
