/-
  C06 — partial evaluation and tautology/contradiction flags are sound.
-/
import Puan.Lemmas.Eval
namespace Puan.C06
open Puan P

/-- Evaluating on a partial or interval-valued interpretation returns bounds that contain the node's value under every
    completion of the leaves within the given intervals (declared bounds where nothing is given). -/
theorem evalB_sound (I : Interp) (σ : String → Int) (t : P) (hs : SignOk t) (hc : Compl I σ t) :
    Bnd.mem (evalOv I σ t) (evalB I t) := assume_sound I σ t hs hc

/-- A returned constant is never contradicted by any completion. -/
theorem const_never_contradicted (I : Interp) (σ : String → Int) (t : P) (c : Int)
    (hs : SignOk t) (hc : Compl I σ t) (h : evalB I t = Bnd.pt c) : evalOv I σ t = c := by
  have := evalB_sound I σ t hs hc
  rw [h] at this
  exact Int.le_antisymm this.2 this.1

/-- Refining the interpretation can only shrink the returned bounds. -/
theorem evalB_mono (A J : Interp) (t : P) (hs : SignOk t) (h : Refines A J t) :
    (evalB J t).sub (evalB A t) := assume_mono A J t h

/-- an in-bounds valuation of the children -/
def InBoxL : List Int → List P → Prop
  | [], [] => True
  | y :: ys, k :: ks => (k.bnd.lo ≤ y ∧ y ≤ k.bnd.hi) ∧ InBoxL ys ks
  | _, _ => False

def lsum : List Int → Int
  | [] => 0
  | y :: ys => y + lsum ys

def WfL : List P → Prop
  | [] => True
  | k :: ks => k.bnd.lo ≤ k.bnd.hi ∧ WfL ks

theorem eqSumLo_eq (s : Int) (ks : List P) : eqSumLo s ks = s * lsum (ks.map (·.bnd.lo)) := by
  induction ks <;> simp [eqSumLo, lsum, Int.mul_add, Int.mul_comm, *]
theorem eqSumHi_eq (s : Int) (ks : List P) : eqSumHi s ks = s * lsum (ks.map (·.bnd.hi)) := by
  induction ks <;> simp [eqSumHi, lsum, Int.mul_add, Int.mul_comm, *]

theorem lsum_between : ∀ (ys : List Int) (ks : List P), InBoxL ys ks →
    lsum (ks.map (·.bnd.lo)) ≤ lsum ys ∧ lsum ys ≤ lsum (ks.map (·.bnd.hi))
  | [], [], _ => ⟨Int.le_refl _, Int.le_refl _⟩
  | [], _ :: _, h => h.elim
  | _ :: _, [], h => h.elim
  | y :: ys, k :: ks, h => by
      have := lsum_between ys ks h.2; have := h.1
      simp only [List.map_cons, lsum]; omega

/-- the reported equation bounds enclose s·Σ − v for every in-bounds valuation of the children, whatever the sign -/
theorem eqBounds_mem (s v : Int) (ys : List Int) (ks : List P) (h : InBoxL ys ks) :
    (eqBounds s v ks).mem (s * lsum ys - v) := by
  have ⟨h1, h2⟩ := lsum_between ys ks h
  have := mul_between s h1 h2
  simp only [Bnd.mem, eqBounds, eqSumLo_eq, eqSumHi_eq]; omega

theorem eqBounds_enclose (s v : Int) (hs : s = 1 ∨ s = -1) (ys : List Int) (ks : List P) (h : InBoxL ys ks) :
    (eqBounds s v ks).lo ≤ s * lsum ys - v ∧ s * lsum ys - v ≤ (eqBounds s v ks).hi :=
  eqBounds_mem s v ys ks h

theorem inBoxL_map (f : P → Int) : ∀ ks : List P, (∀ k ∈ ks, k.bnd.mem (f k)) → InBoxL (ks.map f) ks
  | [], _ => trivial
  | k :: ks, h => ⟨h k List.mem_cons_self, inBoxL_map f ks fun k' hk' => h k' (List.mem_cons_of_mem _ hk')⟩

theorem WfL_iff (ks : List P) : WfL ks ↔ ∀ k ∈ ks, k.bnd.wf :=
  forall_of_rec Iff.rfl (fun _ _ => Iff.rfl) ks

/-- both ends of the reported equation bounds are attained by an in-bounds valuation -/
theorem eqBounds_attained (s v : Int) (ks : List P) (hw : WfL ks) :
    (∃ ys, InBoxL ys ks ∧ s * lsum ys - v = (eqBounds s v ks).lo) ∧
    (∃ ys, InBoxL ys ks ∧ s * lsum ys - v = (eqBounds s v ks).hi) := by
  rw [WfL_iff] at hw
  have lo := inBoxL_map (·.bnd.lo) ks fun k hk => ⟨Int.le_refl _, hw k hk⟩
  have hi := inBoxL_map (·.bnd.hi) ks fun k hk => ⟨hw k hk, Int.le_refl _⟩
  simp only [eqBounds, eqSumLo_eq, eqSumHi_eq]
  rcases Int.le_total (s * lsum (ks.map (·.bnd.lo))) (s * lsum (ks.map (·.bnd.hi))) with h | h
  · exact ⟨⟨_, lo, by rw [Int.min_eq_left h]⟩, ⟨_, hi, by rw [Int.max_eq_right h]⟩⟩
  · exact ⟨⟨_, hi, by rw [Int.min_eq_right h]⟩, ⟨_, lo, by rw [Int.max_eq_left h]⟩⟩

/-- reported as tautology ⇔ true for every in-bounds valuation of the children -/
theorem tautology_iff (s v : Int) (hs : s = 1 ∨ s = -1) (ks : List P) (hw : WfL ks) :
    isTautology s v ks = true ↔ ∀ ys, InBoxL ys ks → s * lsum ys ≥ v := by
  simp only [isTautology, decide_eq_true_eq]
  constructor
  · intro h ys hy
    have := (eqBounds_mem s v ys ks hy).1
    omega
  · intro h
    obtain ⟨ys, hy, he⟩ := (eqBounds_attained s v ks hw).1
    have := h ys hy
    omega

/-- reported as contradiction ⇔ false for every in-bounds valuation of the children -/
theorem contradiction_iff (s v : Int) (hs : s = 1 ∨ s = -1) (ks : List P) (hw : WfL ks) :
    isContradiction s v ks = true ↔ ∀ ys, InBoxL ys ks → ¬ (s * lsum ys ≥ v) := by
  simp only [isContradiction, decide_eq_true_eq]
  constructor
  · intro h ys hy
    have := (eqBounds_mem s v ys ks hy).2
    omega
  · intro h
    obtain ⟨ys, hy, he⟩ := (eqBounds_attained s v ks hw).2
    have := h ys hy
    omega

/-- non-vacuity: a sub-range on an integer leaf -/
example :
    let t : P := .node "A" ⟨0,1⟩ 1 2 [.leaf "x" ⟨0,1⟩, .leaf "z" ⟨-3,10⟩] {}
    let I : Interp := Interp.ofList [("z", ⟨1,4⟩)]
    evalB I t = ⟨0, 1⟩ ∧ isTautology 1 2 t.kids = false ∧ eqBounds 1 2 t.kids = ⟨-5, 9⟩ := by decide

end Puan.C06
