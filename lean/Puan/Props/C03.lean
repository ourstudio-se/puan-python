/-
  C03 — evaluation computes the arithmetic truth function of every node.
-/
import Puan.Lemmas.Eval
namespace Puan.C03
open Puan P

/-- Evaluating on an interpretation that fixes every leaf returns the constant of the arithmetic truth function; a node
    whose own variable is fixed by the interpretation (or by its bounds) takes that fixed value (`evalOv`). -/
theorem evaluate_total (I : Interp) (σ : String → Int) (t : P)
    (hs : SignOk t) (ht : Total I σ t) :
    evalB I t = Bnd.pt (evalOv I σ t) := assume_exact I σ t hs ht

mutual
def NoOv (I : Interp) : P → Prop
  | .leaf .. => True
  | .node i b _ _ ks _ => (I i = none ∧ b.lo ≠ b.hi) ∧ NoOvL I ks
def NoOvL (I : Interp) : List P → Prop
  | [] => True
  | k :: ks => NoOv I k ∧ NoOvL I ks
end

@[simp]
theorem NoOvL_iff (I) (ks : List P) : NoOvL I ks ↔ ∀ k ∈ ks, NoOv I k :=
  forall_of_rec Iff.rfl (fun _ _ => Iff.rfl) ks

theorem evalOv_eq_evalPt (I σ) : ∀ p, NoOv I p → evalOv I σ p = evalPt σ p := by
  intro p; induction p with
  | leaf i b => exact fun _ => rfl
  | node i b s v ks m ih =>
      simp only [NoOv, NoOvL_iff]; intro h
      simp [evalOv, evalPt, h.1.1, h.1.2, sumOv_eq, sumPt_eq, List.map_congr_left fun k hk => ih k hk (h.2 k hk)]

theorem sumOv_eq_sumPt (I σ) : ∀ ks, NoOvL I ks → sumOv I σ ks = sumPt σ ks := by
  simp only [NoOvL_iff, sumOv_eq, sumPt_eq]
  exact fun ks h => congrArg _ (List.map_congr_left fun k hk => evalOv_eq_evalPt I σ k (h k hk))

/-- Without overrides: 1 when sign·(sum of the children's values) ≥ value, else 0, bottom-up. -/
theorem evaluate_total_plain (I : Interp) (σ : String → Int) (t : P)
    (hs : SignOk t) (ht : Total I σ t) (hn : NoOv I t) :
    evalB I t = Bnd.pt (evalPt σ t) := by
  rw [evaluate_total I σ t hs ht, evalOv_eq_evalPt I σ t hn]

/-- One level of "for each of its sub-propositions"; deeper levels follow by applying it again. -/
theorem evaluate_total_kids (I : Interp) (σ : String → Int) (i b s v ks m)
    (hs : SignOk (.node i b s v ks m)) (ht : Total I σ (.node i b s v ks m)) :
    ∀ k ∈ ks, evalB I k = Bnd.pt (evalOv I σ k) :=
  fun k hk => assume_exact I σ k ((SignOks_iff ks).1 hs.2 k hk) ((TotalL_iff I σ ks).1 ht k hk)

/-- non-vacuity -/
example :
    let t : P := .node "A" ⟨0,1⟩ 1 2 [.node "B" ⟨0,1⟩ (-1) (-1) [.leaf "x" ⟨0,1⟩, .leaf "y" ⟨0,1⟩] {}, .leaf "z" ⟨-3,10⟩] {}
    let I : Interp := Interp.ofList [("x", ⟨1,1⟩), ("y", ⟨0,0⟩), ("z", ⟨7,7⟩)]
    evalB I t = ⟨1, 1⟩ := by decide

end Puan.C03
