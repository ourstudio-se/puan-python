/-
  C17 — base64 round trip reproduces propositions and configured polyhedra exactly.
  Thin by nature: pickle / gzip / base64 are assumed to round-trip (`Codec.Ok`); what the theorem pins is the payload's
  field order against the constructor's argument order.
-/
import Puan.Model.B64
namespace Puan.C17
open Puan B64

theorem unpack_pack (p : CfgPoly) : unpack (pack p) = some p := rfl

/-- a configured polyhedron comes back with the same matrix, default priority vector, variables, row index and dtype -/
theorem b64_roundtrip (c : Codec (List Field)) (hc : c.Ok) (p : CfgPoly) : fromB64 c (toB64 c p) = some p := by
  simp [fromB64, toB64, hc (pack p), unpack_pack]

/-- a proposition is pickled whole: the round trip is the identity under the same assumption -/
theorem b64_roundtrip_prop (c : Codec P) (hc : c.Ok) (t : P) : c.dec (c.enc t) = some t := hc t

/-- swapping two payload fields is not accepted as the same polyhedron -/
theorem order_matters (p : CfgPoly) :
    unpack [.mat p.mat, .vars p.vars, .ints p.dpv, .idx p.index, .dt p.dtype] = none := rfl

/-- non-vacuity -/
example : unpack (pack ⟨[[0, 1, -1]], [-1, -2], [("0", ⟨1,1⟩), ("a", ⟨0,1⟩), ("b", ⟨0,1⟩)], ["0"], "int64"⟩) =
    some ⟨[[0, 1, -1]], [-1, -2], [("0", ⟨1,1⟩), ("a", ⟨0,1⟩), ("b", ⟨0,1⟩)], ["0"], "int64"⟩ := by decide

end Puan.C17
