/-
  C07 — assuming values is equivalent to evaluating with them.  About `assume` as repaired for defect D6 (`fix:` commit):
  only sub-propositions that come out constant are replaced by their bare variable.
-/
import Puan.Lemmas.Assume
namespace Puan.C07
open Puan P

/-- The model returned by `assume A` (`A`: leaves and/or sub-proposition ids, constants or ranges) evaluates on `I` to what
    the original evaluates to on the union of both dictionaries; `I` interprets leaves that `A` left open, inside their
    declared bounds. -/
theorem assume_evaluate (A I : Interp) (t : P) (hA : IWf A) (hI : IWf I)
    (hs : SignOk t) (hd : DeclWf t) (hr : Rest A I t) :
    evalB I (assume A t) = evalB (Interp.union A I) t :=
  P.assume_evaluate A I hA hI t hs hd hr

/-- "Variables not mentioned keep bounds that still contain every value they can take", for the top node: the bounds of the
    assumed model contain its value under every completion (`C06.evalB_sound` read on `assume`). -/
theorem assume_bounds_contain (A : Interp) (σ : String → Int) (t : P) (hs : SignOk t) (hc : Compl A σ t) :
    Bnd.mem (evalOv A σ t) (assume A t).bnd := assume_sound A σ t hs hc

/-- regression witness of defect D6: a range assumed for a sub-proposition id -/
example :
    let t : P := .node "T" ⟨0,1⟩ 1 2 [.node "B" ⟨0,1⟩ 1 1 [.leaf "x" ⟨0,1⟩, .leaf "y" ⟨0,1⟩] {}, .leaf "z" ⟨0,1⟩] {}
    let A : Interp := Interp.ofList [("B", ⟨0,1⟩)]
    let I : Interp := Interp.ofList [("x", ⟨1,1⟩), ("z", ⟨1,1⟩)]
    evalB (Interp.union A I) t = ⟨1, 1⟩ ∧ Rest A I t ∧ IWf A := by
  refine ⟨by decide, by simp [Rest, RestL, Interp.ofList, List.lookup, Bnd.sub], ?_⟩
  intro i b h
  simp only [Interp.ofList, List.lookup] at h
  split at h
  · cases h; simp [Bnd.wf]
  · cases h

end Puan.C07
