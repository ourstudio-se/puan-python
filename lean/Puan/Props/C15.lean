/-
  C15 — solver bridge: objectives, solutions and ids stay aligned.
-/
import Puan.Model.Solve
import Puan.Lemmas.Encode
namespace Puan.C15
open Puan Solve

/-- the objective entry at each column is the weight given for that column's id, else 0 -/
theorem objective_entry (cols : List ColInfo) (obj : List (String × Int)) (j : Nat) (c : ColInfo)
    (h : cols[j]? = some c) : (objectiveVec cols obj)[j]? = some ((obj.lookup c.id).getD 0) := by
  simp [objectiveVec, List.getElem?_map, h]

/-- One objective vector per request, and the vector of request `k` is built from request `k` alone (of earlier calls the
    model, a function of this call's arguments, cannot speak). -/
theorem objectives_per_request (cols : List ColInfo) (objs : List (List (String × Int))) :
    (objectives cols objs).length = objs.length ∧
    ∀ k (h : k < objs.length), (objectives cols objs)[k]? = some (objectiveVec cols objs[k]) := by
  refine ⟨by simp [objectives], fun k h => ?_⟩
  simp [objectives, List.getElem?_map, List.getElem?_eq_getElem h]

theorem objective_unnamed_zero (cols : List ColInfo) (obj : List (String × Int)) (j : Nat) (c : ColInfo)
    (hc : cols[j]? = some c) (hn : obj.lookup c.id = none) : (objectiveVec cols obj)[j]? = some 0 := by
  rw [objective_entry cols obj j c hc, hn]; rfl

theorem objective_length (cols obj) : (objectiveVec cols obj).length = cols.length := by simp [objectiveVec]

/-- `zip(A.variables, solution)` filtered, in the words of the `List` library -/
theorem zipKeep_eq (keep : ColInfo → Bool) : ∀ (cols : List ColInfo) (sol : List Int),
    zipKeep keep cols sol = ((cols.zip sol).filter (fun p => keep p.1)).map (fun p => (p.1.id, p.2))
  | [], _ => by simp [zipKeep]
  | _ :: _, [] => by simp [zipKeep]
  | c :: cs, v :: vs => by
      simp only [zipKeep, List.zip_cons_cons, List.filter_cons]
      split <;> simp [zipKeep_eq keep cs vs]

/-- a returned vector is reported as a dictionary mapping each kept column's id to its value -/
theorem zipKeep_mem (keep : ColInfo → Bool) : ∀ (cols : List ColInfo) (sol : List Int) (i : String) (v : Int),
    (i, v) ∈ zipKeep keep cols sol ↔ ∃ j : Nat, ∃ c, cols[j]? = some c ∧ sol[j]? = some v ∧ c.id = i ∧ keep c = true := by
  intro cols sol i v
  simp only [zipKeep_eq, List.mem_map, List.mem_filter, Prod.exists, Prod.mk.injEq]
  simp only [List.mem_iff_getElem?, List.getElem?_zip_eq_some]
  constructor
  · rintro ⟨c, w, ⟨⟨j, h1, h2⟩, hk⟩, hi, rfl⟩; exact ⟨j, c, h1, h2, hi, hk⟩
  · rintro ⟨j, c, h1, h2, hi, hk⟩; exact ⟨c, v, ⟨⟨j, h1, h2⟩, hk⟩, hi, rfl⟩

/-- `solve`: leaves and explicitly named sub-propositions are always reported, generated helper variables only when asked
    for -/
theorem solve_keeps (cols sol iv i v) :
    (i, v) ∈ solveResult cols (some sol) iv ↔
      ∃ j : Nat, ∃ c, cols[j]? = some c ∧ sol[j]? = some v ∧ c.id = i ∧ (c.isLeaf = true ∨ c.gen = false ∨ iv = true) := by
  simp only [solveResult, zipKeep_mem, Bool.or_eq_true, Bool.not_eq_true']
  constructor <;> rintro ⟨j, c, h1, h2, h3, h4⟩ <;> refine ⟨j, c, h1, h2, h3, ?_⟩
  · rcases h4 with (h | h) | h <;> simp [h]
  · rcases h4 with h | h | h <;> simp [h]

/-- `select`: every column, or only leaf items with `only_leafs` -/
theorem select_keeps (cols sol ol i v) :
    (i, v) ∈ selectResult cols (some sol) ol ↔
      ∃ j : Nat, ∃ c, cols[j]? = some c ∧ sol[j]? = some v ∧ c.id = i ∧ (ol = false ∨ c.isLeaf = true) := by
  simp only [selectResult, zipKeep_mem, Bool.or_eq_true, Bool.not_eq_true']

theorem none_gives_empty (cols iv ol) : solveResult cols none iv = [] ∧ selectResult cols none ol = [] := ⟨rfl, rfl⟩

/-- For a model in solver-safe form the leaf part of a point of the asserted polyhedron, which is what an exact solver
    reports, satisfies the model (C02). -/
theorem exact_solver_valid (x : String → Int) (i b s v ks m)
    (hs : P.Safe (.node i b s v ks m)) (hf : P.Free01 (.node i b s v ks m)) (hb : P.Box x (.node i b s v ks m))
    (hr : ∀ r ∈ P.encode true (.node i b s v ks m), r.sat x) :
    P.evalPt x (.node i b s v ks m) = 1 := P.evalPt_of_active x i b s v ks m hs hf hb hr

/-- non-vacuity -/
example :
    let cols : List ColInfo := [⟨"VARx", false, true⟩, ⟨"B", false, false⟩, ⟨"a", true, false⟩]
    objectiveVec cols [("a", 3), ("zz", 9)] = [0, 0, 3] ∧
    solveResult cols (some [1, 0, 1]) false = [("B", 0), ("a", 1)] ∧
    selectResult cols (some [1, 0, 1]) true = [("a", 1)] := by decide

end Puan.C15
