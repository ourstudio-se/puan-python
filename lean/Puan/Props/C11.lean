/-
  C11 — polyhedron reduction preserves the integer solution set.  A reduction by a row mask and a column mask is justified
  by a certificate (`Cert`: masked rows redundant, masked columns forced): `reduce_sound`, `reduce_complete`; the library's
  loop keeps one (`Inv`, `loop_inv` for any fuel; `rrc_cert`), for declared bounds inside the default integer range
  (`AllInRange`, where its tightening is sound) and, at the end, rows as long as the bounds (`Rect`).
-/
import Puan.Lemmas.Mask
import Puan.Props.C12
namespace Puan.C11
open Puan Poly

/-- Rows reported as reducible are satisfied by every in-bounds point. -/
theorem redRows_sound (p : Poly) (r : PRow) (h : sumMin r.cs p.bnds ≥ r.b)
    (xs : List Int) (hb : InBox xs p.bnds) : rowSat r xs := by
  have := (dot_bounds r.cs xs p.bnds hb).1
  rw [sumMin_eq_rbLo r.cs p.bnds (inBox_wf hb)] at h
  unfold rowSat; omega

theorem redRows_get (p : Poly) (i : Nat) (r : PRow) (hr : p.rows[i]? = some r) :
    (redRows p)[i]? = some (decide (sumMin r.cs p.bnds ≥ r.b)) := by
  simp [redRows, List.getElem?_map, hr]

/-- Every column reported with a forced value takes that value in every in-bounds integer solution, and the value lies
    within the column's declared bounds. -/
theorem redCols_forced (p : Poly) (j : Nat) (a : Int) (b : Bnd) (hb : p.bnds[j]? = some b)
    (hr : C12.InRange b) (h : (redCols p)[j]? = some (some a)) :
    (∀ xs x, Sol p xs → xs[j]? = some x → x = a) ∧ (b.lo ≤ a ∧ a ≤ b.hi) := by
  have ht : (tighten p)[j]? = some (tightenCol p j b) := by rw [C12.tighten_get, hb]; rfl
  simp only [redCols, List.getElem?_map, ht, Option.map_some] at h
  have hw := C12.tightenCol_within p j b
  split at h
  · have ha : (tightenCol p j b).lo = a := by simpa using h
    refine ⟨?_, by omega⟩
    intro xs x hs hx
    have := C12.tightenCol_sound p xs j x b hs hx hb hr
    omega
  · simp at h

/-- what a pair of masks has to satisfy for `reduce` to be exact: the column mask holds only forced values (inside their
    bounds) and the removed rows are implied by them -/
structure Cert (p : Poly) (rm : List Bool) (cm : List (Option Int)) : Prop where
  rlen : rm.length = p.rows.length
  forced : ∀ xs, Sol p xs → Agrees xs cm
  inb : BoundsOk cm p.bnds
  redundant : ∀ xs, InBox xs p.bnds → Agrees xs cm → ∀ r ∈ removed rm p.rows, rowSat r xs

/-- Every point of the reduced polyhedron is the projection of a solution of the original. -/
theorem reduce_sound (p : Poly) (rm cm) (hc : Cert p rm cm) (ys : List Int)
    (hs : Sol (reduce p rm cm) ys) : Sol p (merge cm ys) ∧ keep cm (merge cm ys) = ys := by
  obtain ⟨hbox, hrows⟩ := hs
  have ⟨hin, hag, hkeep⟩ := merge_spec (fun a _ h => h a rfl) (boundsOk_iff.1 hc.inb) (inBox_iff.1 hbox)
  rw [← inBox_iff] at hin
  refine ⟨⟨hin, fun r hr => ?_⟩, hkeep⟩
  rcases mem_keepRows_or_removed rm p.rows hc.rlen r hr with h | h
  · have := hrows (reduceRow cm r) (List.mem_map.2 ⟨r, h, rfl⟩)
    rw [← hkeep] at this
    exact (reduceRow_sat r _ cm hag).2 this
  · exact hc.redundant _ hin hag r h

/-- Every solution of the original projects to a point of the reduced polyhedron from which it is recovered: the reduced
    polyhedron is exactly the projection. -/
theorem reduce_complete (p : Poly) (rm cm) (hc : Cert p rm cm) (xs : List Int) (hs : Sol p xs) :
    Agrees xs cm ∧ Sol (reduce p rm cm) (keep cm xs) ∧ merge cm (keep cm xs) = xs := by
  have hag := hc.forced xs hs
  refine ⟨hag, ⟨inBox_keep cm hs.1, fun r' hr' => ?_⟩, merge_keep hag⟩
  obtain ⟨r, hr, rfl⟩ := List.mem_map.1 hr'
  exact (reduceRow_sat r xs cm hag).1 (hs.2 r (keepRows_sub rm p.rows r hr))

theorem empty_stays_empty (p : Poly) (rm cm) (hc : Cert p rm cm) :
    (¬ ∃ xs, Sol p xs) ↔ (¬ ∃ ys, Sol (reduce p rm cm) ys) := by
  constructor
  · intro h ⟨ys, hy⟩; exact h ⟨_, (reduce_sound p rm cm hc ys hy).1⟩
  · intro h ⟨xs, hx⟩; exact h ⟨_, (reduce_complete p rm cm hc xs hx).2.1⟩

/-- the shape clause: one bound per kept column and one row per kept row -/
theorem reduce_shape (p : Poly) (rm cm) :
    (reduce p rm cm).bnds = keep cm p.bnds ∧ (reduce p rm cm).rows.length = (keepRows rm p.rows).length := by
  simp [reduce_eq]

/-! ### the fixpoint loop of `reducable_rows_and_columns` produces such a certificate -/

def AllInRange (bs : List Bnd) : Prop := ∀ b ∈ bs, C12.InRange b

/-- every row has one coefficient per column (it is a matrix) -/
def Rect (p : Poly) : Prop := ∀ r ∈ p.rows, r.cs.length = p.bnds.length

/-- what one evaluation of `reducable_columns_approx` contributes -/
theorem redCols_facts (m : Poly) (hr : AllInRange m.bnds) :
    (∀ ys, Sol m ys → Agrees ys (redCols m)) ∧ BoundsOk (redCols m) m.bnds := by
  have hlen := redCols_length m
  have hf j (a : Int) b (hj : (redCols m)[j]? = some (some a)) (hb : m.bnds[j]? = some b) :=
    redCols_forced m j a b hb (hr b (List.mem_of_getElem? hb)) hj
  constructor
  · intro ys hs
    refine agrees_iff.2 (.of_get (hlen.trans (inBox_length hs.1).symm) fun j o x ho hx a e => ?_)
    have hj : j < m.bnds.length := hlen ▸ (List.getElem?_eq_some_iff.1 ho).1
    exact (hf j a _ (e ▸ ho) (List.getElem?_eq_getElem hj)).1 ys x hs hx
  · exact boundsOk_iff.2 (.of_get hlen fun j o b ho hb a e => (hf j a b (e ▸ ho) hb).2)

structure Inv (p : Poly) (st : RState) : Prop where
  cert : Cert p st.fr st.fc
  meq : st.m = reduce p st.fr st.fc

/-- fixing the columns that the reduced polyhedron forces: what it forces, the original forces on its solutions
    (`reduce_complete`), and the two column masks compose by `scatter` -/
theorem step_cols (p : Poly) (hr : AllInRange p.bnds) (st : RState) (hi : Inv p st) :
    Inv p ⟨reduceCols st.m (redCols st.m), st.fr, scatter st.fc (redCols st.m)⟩ := by
  obtain ⟨hc, hm⟩ := hi
  have hfl : st.fc.length = p.bnds.length := (boundsOk_iff.1 hc.inb).length
  have hmb : st.m.bnds = keep st.fc p.bnds := by rw [hm]; rfl
  have ⟨fa, fb⟩ := redCols_facts st.m fun b hb => hr b (keep_sub _ _ b (hmb ▸ hb))
  have hcount : (keep st.fc p.bnds).length ≤ (redCols st.m).length := by rw [redCols_length, hmb]; exact Nat.le_refl _
  refine ⟨⟨hc.rlen, fun xs hs => ?_, ?_, fun xs hb hag => ?_⟩, ?_⟩
  · have ⟨hag, hsol, _⟩ := reduce_complete p st.fr st.fc hc xs hs
    exact agrees_iff.2 ((agrees_iff.1 hag).scatter (agrees_iff.1 (fa _ (hm ▸ hsol))))
  · exact boundsOk_iff.2 ((boundsOk_iff.1 hc.inb).scatter (boundsOk_iff.1 (hmb ▸ fb)))
  · exact hc.redundant xs hb (agrees_iff.2 (.of_scatter (fun _ _ e => nomatch e) (agrees_iff.1 hag)))
  · show reduceCols st.m (redCols st.m) = reduce p st.fr (scatter st.fc (redCols st.m))
    generalize redCols st.m = rc at hcount
    rw [hm]
    simp only [reduce_eq, reduceCols, List.map_map, keep_scatter st.fc rc p.bnds hcount, Poly.mk.injEq, true_and]
    exact List.map_congr_left fun r _ =>
      reduceRow_scatter st.fc rc r (Nat.le_trans (keep_length_le _ _ _ (Nat.le_of_eq hfl)) hcount)

theorem step_rows (p : Poly) (st : RState) (hi : Inv p st) :
    Inv p ⟨reduceRows st.m (redRows st.m), scatterRows st.fr (redRows st.m), st.fc⟩ := by
  obtain ⟨hc, hm⟩ := hi
  have hmb : st.m.bnds = keep st.fc p.bnds := by rw [hm]; rfl
  have hrr : redRows st.m = (keepRows st.fr p.rows).map
      (fun r => decide (sumMin (reduceRow st.fc r).cs st.m.bnds ≥ (reduceRow st.fc r).b)) := by
    simp only [redRows, hm, reduce_eq, List.map_map]; rfl
  have hlen : (scatterRows st.fr (redRows st.m)).length = p.rows.length := (scatterRows_length _ _).trans hc.rlen
  refine ⟨⟨hlen, hc.forced, hc.inb, fun xs hb hag => ?_⟩, ?_⟩
  · -- rows dropped earlier stay redundant; a row dropped now is reducible in `st.m` at the kept coordinates
    refine (forall_removed hlen).2 (((forall_removed hc.rlen).1 (hc.redundant xs hb hag)).scatterRows ?_)
    rw [hrr]
    refine .of_get (by simp) fun j b r hb' hr' e => ?_
    simp only [List.getElem?_map, hr', Option.map_some, Option.some.injEq] at hb'
    have := redRows_sound st.m (reduceRow st.fc r) (by simpa [← hb'] using e) _ (hmb ▸ inBox_keep st.fc hb)
    exact (reduceRow_sat r xs st.fc hag).2 this
  · show reduceRows st.m (redRows st.m) = reduce p (scatterRows st.fr (redRows st.m)) st.fc
    have hcount : (keepRows st.fr p.rows).length ≤ (redRows st.m).length := by simp [hrr]
    generalize redRows st.m = rr at hcount
    rw [hm]
    simp only [reduce_eq, reduceRows, keepRows_map, keepRows_scatter st.fr rr p.rows hcount]

theorem loop_inv (p : Poly) (hr : AllInRange p.bnds) : ∀ (fuel : Nat) (st : RState) (rr : List Bool),
    Inv p st → Inv p (rrcLoop fuel st (redCols st.m) rr) := by
  intro fuel st rr h
  generalize hrc : redCols st.m = rc
  -- the five exits of `rrcLoop`: no fuel, no column left, no row left, another round, nothing to do
  fun_induction rrcLoop fuel st rc rr with
  | case1 | case5 => exact h
  | case2 => subst hrc; exact step_cols p hr _ h
  | case3 => subst hrc; exact step_rows p _ (step_cols p hr _ h)
  | case4 => subst hrc; rename_i ih; exact ih (step_rows p _ (step_cols p hr _ h)) rfl

/-- The masks returned by `reducable_rows_and_columns` certify the reduction: by `reduce_sound` / `reduce_complete` the
    reduced polyhedron has exactly the projection of the original solution set. -/
theorem rrc_cert (p : Poly) (hr : AllInRange p.bnds) (hrect : Rect p) : Cert p (rrc p).1 (rrc p).2 := by
  have h0 : Inv p ⟨p, p.rows.map (fun _ => false), p.bnds.map (fun _ => none)⟩ := by
    -- nothing is masked yet: every clause of `Cert` holds of the all-`none` / all-`false` masks for want of an entry
    refine ⟨⟨by simp, fun xs hs => ?_, ?_, fun xs _ _ r hrem => ?_⟩, ?_⟩
    · exact agrees_iff.2 (All2.nones (fun _ _ e => nomatch e) (inBox_length hs.1).symm)
    · exact boundsOk_iff.2 (All2.nones (fun _ _ e => nomatch e) rfl)
    · rw [removed_falses] at hrem; cases hrem
    · show p = reduce p _ _
      rw [reduce_eq, keepRows_falses, keep_nones _ _ (Nat.le_refl _)]
      -- a row of full width loses no coefficient and no constant
      have hid : p.rows.map (reduceRow (p.bnds.map fun _ => none)) = p.rows.map id :=
        List.map_congr_left fun r hr' => by
          simp only [reduceRow, fixedSum_nones, keep_nones _ r.cs (Nat.le_of_eq (hrect r hr')), Int.sub_zero, id]
      rw [hid, List.map_id]
  exact (loop_inv p hr _ _ (redRows p) h0).cert

/-- non-vacuity: −3·v ≥ 0 forces v = 0 and is then dropped -/
example :
    let p : Poly := ⟨[⟨0, 1⟩, ⟨0, 2⟩], [⟨0, [-3, 0]⟩, ⟨1, [1, 1]⟩]⟩
    rrc p = ([true, false], [some 0, none]) ∧ (reduce p [true, false] [some 0, none]).rows = [⟨1, [1]⟩] := by decide

end Puan.C11
