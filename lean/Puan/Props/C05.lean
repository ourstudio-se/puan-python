/-
  C05 — negation is the exact complement and stays in solver-safe form; about `negate` as repaired for defect D1 and
  finding F05b (`fix:` commits).
-/
import Puan.Lemmas.Negate
import Puan.Lemmas.Build
namespace Puan.C05
open Puan P

theorem negPairs_comps_length : ∀ ks : List P, (negPairs ks).length = (comps ks).length := by
  intro ks; rw [negPairs_eq, List.length_map]

/-- `negate_compl` for any signs: a node `s·Σ ≥ v` and its flat negation `-s·Σ ≥ 1 - v` are complementary whatever `s` is
    (`step_negate`) -/
theorem negate_compl_inb (σ : String → Int) : ∀ p, InB σ p → p.isLeaf = false → evalPt σ (negate p) = 1 - evalPt σ p := by
  intro p
  induction p with
  | leaf => intro _ h; cases h
  | node i b s v ks m ih =>
      intro hb _
      rw [evalPt_step, evalPt_step σ (.node ..)]
      exact step_negate _ i b s v ks m
        (fun k hk hl => ⟨evalPt01 σ k hl, ih k hk ((InBs_iff σ ks).1 hb k hk) hl⟩)
        (fun _ _ ha => (InBs_iff σ ks).1 hb _ ha) (evalPt_negGroup σ)

/-- For every in-bounds total leaf assignment the negated model evaluates to 1 exactly when the original evaluates to 0. -/
theorem negate_compl (σ : String → Int) : ∀ p, SignOk p → InB σ p → p.isLeaf = false →
    evalPt σ (negate p) = 1 - evalPt σ p := fun p _ => negate_compl_inb σ p

theorem negPairs_sum (σ : String → Int) : ∀ ks, SignOks ks → InBs σ ks →
    sumPt σ ((negPairs ks).map (·.2)) = (comps ks).length - sumPt σ (comps ks) := by
  intro ks hs hb
  rw [negPairs_eq, List.map_map, sumPt_eq, sumPt_eq]
  refine List.sum_map_compl (f := evalPt σ) (c := negate) fun k hk => ?_
  obtain ⟨hk, hl⟩ := mem_comps.1 hk
  exact negate_compl σ k ((SignOks_iff ks).1 hs _ hk) ((InBs_iff σ ks).1 hb _ hk) hl

/-- An explicitly given id is kept. -/
theorem negate_keeps_id (i b s v ks) (m : Meta) (h : m.gen = false) :
    (negate (.node i b s v ks m)).id = i := by
  rw [negate_id, negId_explicit h]

mutual
def BoolLeaves : P → Prop
  | .leaf _ b => b.lo = 0 ∧ b.hi = 1
  | .node _ _ _ _ ks _ => BoolLeavesL ks
def BoolLeavesL : List P → Prop
  | [] => True
  | k :: ks => BoolLeaves k ∧ BoolLeavesL ks
end

theorem BoolLeavesL_iff : ∀ ks : List P, BoolLeavesL ks ↔ ∀ k ∈ ks, BoolLeaves k :=
  forall_of_rec Iff.rfl (fun _ _ => Iff.rfl)

theorem safe_leafnode (i b s v) (ks : List P) (m) (hs : s = 1 ∨ s = -1) (hl : ∀ k ∈ ks, k.isLeaf = true) :
    Safe (.node i b s v ks m) := by
  refine ⟨hs.imp_right fun h => ⟨h, hl⟩, (SafeL_iff ks).2 fun k hk => ?_⟩
  have := hl k hk
  cases k with
  | leaf => trivial
  | node => cases this

/-- Negating a solver-safe model over boolean leaves yields a solver-safe model. -/
theorem negate_safe : ∀ p, Safe p → BoolLeaves p → Safe (negate p) := by
  intro p
  induction p with
  | leaf i b => intro _ _; rw [negate_leaf]; trivial
  | node i b s v ks m ih =>
      intro hs hb
      have hks := (SafeL_iff ks).1 hs.2
      have hbk := (BoolLeavesL_iff ks).1 hb
      rw [negate_node]
      split
      · -- pushed into: a positive node over negated compounds and groups of leaves
        rename_i ex hp
        refine ⟨Or.inl rfl, (SafeL_iff _).2 fun k hk => ?_⟩
        rcases List.mem_append.1 hk with hk | hk
        · obtain ⟨k0, hk0, _, rfl⟩ := mem_negKids.1 hk
          exact ih k0 hk0 (hks _ hk0) (hbk _ hk0)
        · obtain ⟨l, hl, rfl⟩ := mem_negAtoms (negPush_some hp).2.2 hk
          exact safe_leafnode _ _ _ _ l _ (Or.inr rfl) fun a ha => (mem_leavesOf.1 (hl a ha)).2
      · -- flat: the sign was −1 over leaves, or there is no compound child (boolean atoms can always be pushed)
        rename_i hp
        have hall : ∀ k ∈ ks, k.isLeaf = true := by
          rcases hs.1 with rfl | ⟨_, hl⟩
          · exact comps_eq_nil.1 (Classical.byContradiction fun hc => negPush_bool hc (fun _ _ ha => hbk _ ha) hp)
          · exact hl
        exact safe_leafnode _ _ _ _ _ _ (by have := hs.1; omega) fun k hk => hall k (mem_sortById.1 hk)

theorem negPairs_safe : ∀ ks, SafeL ks → BoolLeavesL ks → ∀ p ∈ negPairs ks, Safe p.2 := by
  intro ks hs hb p hp
  obtain ⟨k, hk, _, e⟩ := mem_negPairs hp
  exact e ▸ negate_safe k ((SafeL_iff ks).1 hs k hk) ((BoolLeavesL_iff ks).1 hb k hk)

/-- regression witness of defect D1 (value 2 over a mixed child list): its negation is false where it is true -/
example :
    let t : P := .node "T" ⟨0,1⟩ 1 2 [.node "B" ⟨0,1⟩ 1 1 [.leaf "a" ⟨0,1⟩, .leaf "b" ⟨0,1⟩] {}, .leaf "b" ⟨0,1⟩, .leaf "c" ⟨0,1⟩] {}
    let σ : String → Int := fun _ => 1
    evalPt σ t = 1 ∧ evalPt σ (negate t) = 0 := by
  intro t σ
  have h1 : evalPt σ t = 1 := by decide
  have hs : SignOk t := by simp [t, SignOk, SignOks]
  have hb : InB σ t := by simp [t, σ, InB, InBs]
  have := negate_compl σ t hs hb rfl
  omega

/-- Double negation evaluates like the model again (`good_negate` makes the negation a model `negate_compl` applies to). -/
theorem negate_negate_eval (σ : String → Int) (i b s v ks) (m : Meta) (hg : Good σ (.node i b s v ks m)) :
    evalPt σ (negate (negate (.node i b s v ks m))) = evalPt σ (.node i b s v ks m) := by
  have h1 := negate_compl σ (.node i b s v ks m) hg.1 hg.2 rfl
  have hg' := good_negate σ _ hg
  have h2 := negate_compl σ (negate (.node i b s v ks m)) hg'.1 hg'.2 (negate_isLeaf _)
  rw [h2, h1]; omega

/-- An explicitly given id survives both negations: the second still sees it as given. -/
theorem negate_negate_id (i b s v ks) (m : Meta) (h : m.gen = false) :
    (negate (negate (.node i b s v ks m))).id = i := by
  have : negId i s v ks m = i := negId_explicit h
  rw [negate_node]
  split <;> exact (negate_keeps_id _ _ _ _ _ _ h).trans this

/-! `evaluate` lets a node whose own variable has constant bounds take that constant (C03, `evalOv`); `negate` as repaired
for F05b gives an explicitly named node whose variable is fixed to `c` a variable fixed to `1 - c`. -/

theorem negate_shape (i b s v ks) (m : Meta) :
    ∃ s' v' ks' m', negate (.node i b s v ks m) =
      .node (if m.gen then genId (sortById ks) (1 - v) (some (-s)) else i)
        (if m.gen then ⟨0, 1⟩ else if b.lo = b.hi then ⟨1 - b.hi, 1 - b.lo⟩ else b) s' v' ks' m' := by
  rw [negate_node]; split <;> exact ⟨_, _, _, _, rfl⟩

/-- With the node-fixing rule of `evaluate` (`evalOv`, empty dictionary) the negation of a model fixed by its own variable
    evaluates to 1 − the model, whatever the children say. -/
theorem negate_fixed_top (σ : String → Int) (i b s v ks) (m : Meta) (hg : m.gen = false) (hc : b.lo = b.hi) :
    evalOv (fun _ => none) σ (negate (.node i b s v ks m)) = 1 - evalOv (fun _ => none) σ (.node i b s v ks m) := by
  obtain ⟨s', v', ks', m', h⟩ := negate_shape i b s v ks m
  rw [h]
  simp only [hg, Bool.false_eq_true, if_false, hc, if_true, evalOv, Option.getD_none]

/-- A node that is not fixed stays not fixed: its negation is computed from the children. -/
theorem negate_free_top (i b s v ks) (m : Meta) (hc : ¬ b.lo = b.hi) :
    ¬ (negate (.node i b s v ks m)).bnd.lo = (negate (.node i b s v ks m)).bnd.hi := by
  rw [negate_bnd, negBnd_fixed_iff]
  exact fun h => hc h.2

/-- Under `evaluate`'s node-fixing rule (`eF`) the negation is the complement at every node, fixed or not. -/
theorem negate_compl_fx (σ : String → Int) : ∀ p, SignOk p → InB σ p → FixOk p → p.isLeaf = false →
    eF σ (negate p) = 1 - eF σ p := by
  intro p
  induction p with
  | leaf => intro _ _ _ h; cases h
  | node i b s v ks m ih =>
      intro hs hb hf _
      by_cases hfix : b.lo = b.hi
      · exact negate_fixed_top σ i b s v ks m (hf.1 hfix).2 hfix
      · rw [eF_step σ _ (negate_free_top i b s v ks m hfix), eF_step σ (.node ..) hfix]
        refine step_negate _ i b s v ks m (fun k hk hl => ?_) (fun _ _ ha => (InBs_iff σ ks).1 hb _ ha) fun l => ?_
        · have hfk := (FixOks_iff ks).1 hf.2 k hk
          cases k with
          | leaf => cases hl
          | node => exact ⟨eF01 σ hfk, ih _ hk ((SignOks_iff ks).1 hs.2 _ hk) ((InBs_iff σ ks).1 hb _ hk) hfk rfl⟩
        · rw [eF_step σ _ (by simp [negGroup, bnd])]
          simp only [negGroup, step]; exact ite_of_iff (by omega) ..

theorem negPairs_sum_fx (σ : String → Int) : ∀ ks, SignOks ks → InBs σ ks → FixOks ks →
    sF σ ((negPairs ks).map (·.2)) = (comps ks).length - sF σ (comps ks) := by
  intro ks hs hb hf
  rw [negPairs_eq, List.map_map, sF, sF, sumOv_eq, sumOv_eq]
  refine List.sum_map_compl (f := eF σ) (c := negate) fun k hk => ?_
  obtain ⟨hk, hl⟩ := mem_comps.1 hk
  exact negate_compl_fx σ k ((SignOks_iff ks).1 hs _ hk) ((InBs_iff σ ks).1 hb _ hk) ((FixOks_iff ks).1 hf _ hk) hl

theorem fixOk_negate : ∀ p, FixOk p → FixOk (negate p) :=
  negate_preserves (kids := fun h => (FixOks_iff _).1 h.2) (grp := fun l hl => ⟨by simp, (FixOks_iff l).2 hl⟩)
    (hdr := fun {_ b _ _ _ m} _ _ _ ks' h _ hk => ⟨fun hfix => by
      have hb := (negBnd_fixed_iff b m).1 hfix
      have := (h.1 hb.2).1
      rw [negBnd_of_fixed hb]
      exact ⟨by show 1 - b.hi = 0 ∨ 1 - b.hi = 1; omega, hb.1⟩, (FixOks_iff ks').2 hk⟩)

theorem fixOk_negPairs : ∀ ks : List P, (∀ k ∈ ks, FixOk k) → ∀ p ∈ negPairs ks, FixOk p.2 := by
  intro ks h p hp
  obtain ⟨k, hk, _, e⟩ := mem_negPairs hp
  exact e ▸ fixOk_negate k (h k hk)

/-- Double negation under the node-fixing rule evaluates like the original, fixed nodes included. -/
theorem negate_negate_fx (σ : String → Int) (i b s v ks) (m : Meta) (hg : Good σ (.node i b s v ks m))
    (hf : FixOk (.node i b s v ks m)) :
    eF σ (negate (negate (.node i b s v ks m))) = eF σ (.node i b s v ks m) := by
  have h1 := negate_compl_fx σ (.node i b s v ks m) hg.1 hg.2 hf rfl
  have hg' := good_negate σ _ hg
  have h2 := negate_compl_fx σ (negate (.node i b s v ks m)) hg'.1 hg'.2 (fixOk_negate _ hf) (negate_isLeaf _)
  rw [h2, h1]; omega

/-- regression witness of finding F05b: `Any(All('a','b', variable=A fixed to 1), 'c', variable='T')` is true whatever the
    leaves say, so its negation is false, also at c = 0 -/
example :
    let t : P := .node "T" ⟨0,1⟩ 1 1 [.node "A" ⟨1,1⟩ 1 2 [.leaf "a" ⟨0,1⟩, .leaf "b" ⟨0,1⟩] {}, .leaf "c" ⟨0,1⟩] {}
    let σ : String → Int := fun _ => 0
    eF σ t = 1 ∧ eF σ (negate t) = 0 := by
  intro t σ
  have h1 : eF σ t = 1 := by decide
  have hs : SignOk t := by simp [t, SignOk, SignOks]
  have hb : InB σ t := by simp [t, σ, InB, InBs]
  have hf : FixOk t := by simp [t, FixOk, FixOks]
  have := negate_compl_fx σ t hs hb hf rfl
  exact ⟨h1, by rw [this, h1]; rfl⟩

/-- non-vacuity: the D1 witness negated twice is true again where it was true, and is still called "T" -/
example :
    let t : P := .node "T" ⟨0,1⟩ 1 2 [.node "B" ⟨0,1⟩ 1 1 [.leaf "a" ⟨0,1⟩, .leaf "b" ⟨0,1⟩] {}, .leaf "b" ⟨0,1⟩, .leaf "c" ⟨0,1⟩] {}
    let σ : String → Int := fun _ => 1
    evalPt σ (negate (negate t)) = 1 ∧ (negate (negate t)).id = "T" := by
  intro t σ
  have h1 : evalPt σ t = 1 := by decide
  have hg : Good σ t := ⟨by simp [t, SignOk, SignOks], by simp [t, σ, InB, InBs]⟩
  exact ⟨(negate_negate_eval σ _ _ _ _ _ _ hg).trans h1, negate_negate_id _ _ _ _ _ _ rfl⟩

end Puan.C05
