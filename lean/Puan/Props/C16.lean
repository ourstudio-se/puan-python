/-
  C16 — the JSON round trip preserves meaning, explicit ids and defaults: `to_json` is `toJson`, `from_json` is the constructor
  call `PJ.toAst cfg` reads, built by `Ast.build`.  `cfg` is the class map: plog's (`false`) or the configurator's (`true`),
  which reads every "Xor" as a `cc.Xor`, an "Any" with a default as a `cc.Any`, and knows `StingyConfigurator`.
  Three parts trade scope for strength:
  * `frag_roundtrip` — variable / AtLeast (any sign and value: the part repaired for finding F16a) / AtMost / Any / All / Xor /
    ExactlyOne, nested arbitrarily (`Frag cfg`): the model read back evaluates identically on EVERY assignment and has the
    same leaf variables and bounds.
  * `fragN_roundtrip` — the same plus Imply and XNor nodes, whatever `Not` / `negate` produce and, under the configurator's map,
    `StingyConfigurator` and defaulted `cc.Any` / `cc.Xor` (`FragN cfg`): equal values on the assignments inside the leaf bounds
    only, `negate` being exact only there.  The work is `nrt_node`: the JSON written for the negation of the condition an Imply
    holds reads back as the complement.  `build_roundtrip`, `configurator_roundtrip` say the same of what constructor
    expressions build (`RTExpr cfg`): defaulted choices among the rules, below an Imply, below a choice.
  * `everyday_configurator_exact` — a `StingyConfigurator` with an id of the caller's over defaulted choices over items, plain
    Any / All / AtMost / AtLeast rules over items and `Imply(item, item or such a rule)` is read back as the VERY SAME model,
    hence with the same default priorities, polyhedron, columns and JSON.
  Beside them `defaults_kept`, `id_written_iff`: the default read back is the default written; an explicit id is written, a
  generated one is not.
  Hypotheses kept: `DistinctRT` for All / StingyConfigurator (the children stay pairwise distinct after the round trip — what
  fails on the models of known finding F16f; no lemma discharges it except for a single child, `distinctRT_single`; the exact
  part does without it); two inequalities of generated ids for Imply / XNor (`RTExpr`); `ItemsNonneg` and `OneDefault` for
  configurator choices; for the exact round trip pairwise distinct ids, a `cc.Any` helper's generated id that is no item's id,
  for `Imply(item, d)` an id of `d` that is not the generated id of the negated item, and for a plain AtLeast with a generated
  id the sign passed the way `to_json` writes it.
  PARTIAL: for configurators with other rules, default priorities and the polyhedron after the round trip are covered by the
  correspondence (toJson / toAst + build against the real code) and the oracle only.
-/
import Puan.Model.Json
import Puan.Lemmas.Ctor
import Puan.Lemmas.Json
import Puan.Props.C04
import Puan.Props.C14
import Puan.Props.C18
import Puan.Props.C10
import Puan.Model.Encode
import Puan.Model.Solve
namespace Puan.C16
open Puan P

variable {cfg : Bool}

/-- the children stay pairwise distinct propositions after the round trip (what `All` counts with `len(set(…))`); it fails on
    the models of known finding F16f -/
def DistinctRT (cfg : Bool) (ks : List P) : Prop :=
  ∀ as, PJ.toAstL cfg (toJsonL ks) = some as → distinctCount (Ast.buildL as) = as.length

/-- the two halves of an `Xor` / `ExactlyOne`: "at least one" and "at most one" of the same propositions, in either order -/
def XorShape (ks : List P) : Prop :=
  ∃ i1 b1 m1 i2 b2 m2 args,
    ks = [.node i1 b1 1 1 args m1, .node i2 b2 (-1) (-1) args m2] ∨
    ks = [.node i2 b2 (-1) (-1) args m2, .node i1 b1 1 1 args m1]

mutual
def Frag (cfg : Bool) : P → Prop
  | .leaf _ _ => True
  | .node _ _ s v ks m =>
      ((m.cls = .atLeast ∧ (s = 1 ∨ s = -1)) ∨ (m.cls = .atMost ∧ s = -1) ∨ (m.cls = .any ∧ s = 1 ∧ v = 1) ∨
       (m.cls = .all ∧ v = ks.length ∧ s = (if v > 0 then 1 else -1) ∧ DistinctRT cfg ks) ∨
       ((m.cls = .xor ∨ m.cls = .exactlyOne) ∧ s = 1 ∧ v = 2 ∧ XorShape ks)) ∧ FragL cfg ks
def FragL (cfg : Bool) : List P → Prop
  | [] => True
  | k :: ks => Frag cfg k ∧ FragL cfg ks
end

theorem FragL_iff (ks : List P) : FragL cfg ks ↔ ∀ k ∈ ks, Frag cfg k :=
  forall_of_rec (by rw [FragL]) (fun _ _ => by rw [FragL]) ks

theorem sgnOf_signJ (s v : Int) (hs : s = 1 ∨ s = -1) : sgnOf v (signJ s v) = s := by
  rcases hs with rfl | rfl <;> by_cases hv : v > 0 <;> simp [sgnOf, signJ, defaultSign, hv]

mutual
/-- the leaf variables of a model with their bounds, in tree order (one entry per occurrence) -/
def leafList : P → List (String × Bnd)
  | .leaf i b => [(i, b)]
  | .node _ _ _ _ ks _ => leafListL ks
def leafListL : List P → List (String × Bnd)
  | [] => []
  | k :: ks => leafList k ++ leafListL ks
end

theorem leafListL_eq : ∀ ks : List P, leafListL ks = ks.flatMap leafList :=
  flatMap_of_rec (by rw [leafListL]) fun _ _ => by rw [leafListL]

theorem leafListL_perm {l1 l2 : List P} (h : l1.Perm l2) : (leafListL l1).Perm (leafListL l2) := by
  rw [leafListL_eq, leafListL_eq]; exact h.flatMap_right _

theorem leafListL_append : ∀ a b : List P, leafListL (a ++ b) = leafListL a ++ leafListL b := by
  intro a b; simp only [leafListL_eq, List.flatMap_append]

theorem leafList_mkAtLeast_args (v : Int) (A : List (Bool × P)) (var sgn cls) :
    (leafList (mkAtLeast v (orderArgs A) var sgn cls)).Perm (leafListL (A.map (·.2))) := by
  rw [mkAtLeast_eq]; exact leafListL_perm (sortArgs_perm A)

theorem leafList_mkXor (A : List (Bool × P)) (oid cls) :
    (leafList (mkXor A oid cls)).Perm (leafListL (A.map (·.2)) ++ leafListL (A.map (·.2))) := by
  rw [mkXor_eq, mkAtLeast_eq]
  refine (leafListL_perm (sortById_perm _)).trans ?_
  rw [leafListL, leafListL, leafListL, List.append_nil]
  exact (leafList_mkAtLeast_args ..).append (leafList_mkAtLeast_args ..)

theorem evalPt_rebuilt (σ) {v : Int} {A : List (Bool × P)} {var sgn cls i b s ks m} (hs : sgnOf v sgn = s)
    (hsum : sumPt σ (A.map (·.2)) = sumPt σ ks) :
    evalPt σ (mkAtLeast v (orderArgs A) var sgn cls) = evalPt σ (.node i b s v ks m) := by
  rw [evalPt_mkAtLeast, sum_orderArgs, hs, hsum, evalPt]

/-- the classes that `from_json` rebuilds by one `AtLeast` constructor over the children read back -/
def Plain (cfg : Bool) (s v : Int) (ks : List P) (m : Meta) : Prop :=
  (m.cls = .atLeast ∧ (s = 1 ∨ s = -1)) ∨ (m.cls = .atMost ∧ s = -1) ∨ (m.cls = .any ∧ s = 1 ∧ v = 1) ∨
  ((m.cls = .all ∨ m.cls = .stingy ∧ cfg = true) ∧ v = ks.length ∧ s = (if v > 0 then 1 else -1) ∧ DistinctRT cfg ks)

/-- `All` / `StingyConfigurator` re-derive the value from the number of distinct children: hence `DistinctRT` -/
theorem back_plain {i b s v ks m as} (hc : Plain cfg s v ks m) (has : PJ.toAstL cfg (toJsonL ks) = some as) :
    (s = 1 ∨ s = -1) ∧ ∃ a var sgn cls, PJ.toAst cfg (toJson (.node i b s v ks m)) = some a ∧
      a.build = mkAtLeast v (orderArgs (Ast.buildL as)) var sgn cls ∧ sgnOf v sgn = s := by
  rcases hc with ⟨hcls, hs⟩ | ⟨hcls, rfl⟩ | ⟨hcls, rfl, rfl⟩ | ⟨hcls, hv, hs, hd⟩
  · exact ⟨hs, .atLeast v as (idJ i m) (signJ s v), _, _, _, by simp [toJson, hcls, PJ.toAst, has], rfl, sgnOf_signJ s v hs⟩
  · exact ⟨Or.inr rfl, .atMost (-v) as (idJ i m), _, _, _, by simp [toJson, hcls, PJ.toAst, has],
      by rw [Ast.build, mkAtMost, Int.neg_neg], rfl⟩
  · exact ⟨Or.inl rfl, .any as (idJ i m), _, _, _, by simp [toJson, hcls, PJ.toAst, has], rfl, rfl⟩
  · have hdc : (distinctCount (Ast.buildL as) : Int) = v := by rw [hd as has, PJ.toAstL_length _ as has, toJsonL_length, hv]
    refine ⟨by rw [hs]; split <;> simp, ?_⟩
    rcases hcls with hcls | ⟨hcls, rfl⟩
    · exact ⟨.all as (idJ i m), _, none, _, by simp [toJson, hcls, PJ.toAst, has], by rw [Ast.build, mkAll, hdc], hs.symm⟩
    · exact ⟨.stingy as (idJ i m), _, none, _, by simp [toJson, hcls, PJ.toAst, has], by rw [Ast.build, mkAll, hdc], hs.symm⟩

theorem evalPt_xorShape (σ) {i b m i1 b1 m1 i2 b2 m2 args} {ks : List P}
    (h : ks = [.node i1 b1 1 1 args m1, .node i2 b2 (-1) (-1) args m2] ∨
      ks = [.node i2 b2 (-1) (-1) args m2, .node i1 b1 1 1 args m1]) :
    evalPt σ (.node i b 1 2 ks m) = if sumPt σ args = 1 then 1 else 0 := by
  have : (sumPt σ args ≥ 1 ∧ -1 * sumPt σ args ≥ -1) ↔ sumPt σ args = 1 := by omega
  rw [evalPt, sumPt_pair σ h, evalPt, evalPt]
  simp only [Int.one_mul, ite_add_ge_two, this]

/-- an `Xor` / `ExactlyOne` node is written as the children of its first half, and rebuilt from them -/
theorem back_xor {i b s v ks m as} (hcls : m.cls = .xor ∨ m.cls = .exactlyOne)
    (has : PJ.toAstL cfg (kidsOfNth ks 0) = some as) :
    ∃ a oid cls, PJ.toAst cfg (toJson (.node i b s v ks m)) = some a ∧ a.build = mkXor (Ast.buildL as) oid cls := by
  rcases hcls with hcls | hcls
  · cases cfg
    · exact ⟨.xor as (idJ i m) false, _, _, by simp [toJson, hcls, PJ.toAst, has], rfl⟩
    · -- the configurator's class map reads "Xor" as cc.Xor (no default: the same two halves)
      exact ⟨.ccXor as [] (idJ i m), _, _, by simp [toJson, hcls, PJ.toAst, has], mkCcXor_nil _ _⟩
  · exact ⟨.xor as (idJ i m) true, _, _, by simp [toJson, hcls, PJ.toAst, has], rfl⟩

/-- the round trip of `t`, and of the list of its children — the second so that an `Xor` can be rebuilt from one half -/
def RT (cfg : Bool) (t : P) : Prop :=
  (∃ a, PJ.toAst cfg (toJson t) = some a ∧ (∀ σ, evalPt σ a.build = evalPt σ t) ∧ (leafList a.build).Perm (leafList t)) ∧
  (∃ as, PJ.toAstL cfg (toJsonL t.kids) = some as ∧ (∀ σ, sumPt σ ((Ast.buildL as).map (·.2)) = sumPt σ t.kids) ∧
    (leafListL ((Ast.buildL as).map (·.2))).Perm (leafListL t.kids))

theorem rt_list (ks : List P) (h : ∀ k ∈ ks, ∃ a, PJ.toAst cfg (toJson k) = some a ∧ (∀ σ, evalPt σ a.build = evalPt σ k) ∧
      (leafList a.build).Perm (leafList k)) :
    ∃ as, PJ.toAstL cfg (toJsonL ks) = some as ∧ (∀ σ, sumPt σ ((Ast.buildL as).map (·.2)) = sumPt σ ks) ∧
      (leafListL ((Ast.buildL as).map (·.2))).Perm (leafListL ks) := by
  obtain ⟨f, has, hf⟩ := PJ.toAstL_lift toJson ks h
  refine ⟨_, toJsonL_eq ks ▸ has, fun σ => ?_, ?_⟩ <;> rw [Ast.buildL_snd, List.map_map]
  · exact sumPt_map_congr σ fun k hk => (hf k hk).1 σ
  · rw [leafListL_eq, leafListL_eq, List.flatMap_map]
    exact List.Perm.flatMap_left fun k hk => (hf k hk).2

theorem frag_rt : ∀ t : P, Frag cfg t → RT cfg t := by
  intro t
  induction t with
  | leaf i b =>
      exact fun _ => ⟨⟨.var i b, by rw [toJson]; exact PJ.toAst_leafJ i b, fun _ => rfl, .refl _⟩, [], rfl, fun _ => rfl, .refl _⟩
  | node i b s v ks m ih =>
      intro h
      have hkids : ∀ k ∈ ks, RT cfg k := fun k hk => ih k hk ((FragL_iff ks).1 h.2 k hk)
      obtain ⟨as, has, hsum, hlf⟩ := rt_list ks fun k hk => (hkids k hk).1
      refine ⟨?_, as, has, hsum, hlf⟩
      have plain : Plain cfg s v ks m → ∃ a, PJ.toAst cfg (toJson (.node i b s v ks m)) = some a ∧
          (∀ σ, evalPt σ a.build = evalPt σ (.node i b s v ks m)) ∧ (leafList a.build).Perm (leafList (.node i b s v ks m)) := by
        intro hp
        obtain ⟨_, a, var, sgn, cls, ha, hb, hsg⟩ := back_plain (i := i) (b := b) hp has
        exact ⟨a, ha, fun σ => hb ▸ evalPt_rebuilt σ hsg (hsum σ), hb ▸ (leafList_mkAtLeast_args ..).trans hlf⟩
      rcases h.1 with hc | hc | hc | ⟨hcls, hc⟩ | ⟨hcls, rfl, rfl, i1, b1, m1, i2, b2, m2, args, hks⟩
      · exact plain (Or.inl hc)
      · exact plain (Or.inr (Or.inl hc))
      · exact plain (Or.inr (Or.inr (Or.inl hc)))
      · exact plain (Or.inr (Or.inr (Or.inr ⟨Or.inl hcls, hc⟩)))
      · -- Xor / ExactlyOne: rebuilt from the propositions of one half
        obtain ⟨as', has', hsum', hlf'⟩ := (hkids (.node i1 b1 1 1 args m1) (by rcases hks with rfl | rfl <;> simp)).2
        obtain ⟨a, oid, cls, ha, hb⟩ := back_xor (cfg := cfg) (i := i) (b := b) (s := 1) (v := 2) (ks := ks) hcls
          (by rcases hks with rfl | rfl <;> exact has')
        refine ⟨a, ha, fun σ => ?_, ?_⟩
        · rw [hb, C04.evalPt_mkXor, hsum' σ, evalPt_xorShape σ hks]; rfl
        · rw [hb]
          refine (leafList_mkXor ..).trans ((hlf'.append hlf').trans ?_)
          rcases hks with rfl | rfl <;> simp [leafList, leafListL, P.kids]

theorem frag_rtL : ∀ ks : List P, FragL cfg ks →
    (∃ as, PJ.toAstL cfg (toJsonL ks) = some as ∧ (∀ σ, sumPt σ ((Ast.buildL as).map (·.2)) = sumPt σ ks) ∧
      (leafListL ((Ast.buildL as).map (·.2))).Perm (leafListL ks)) ∧
    (∀ k ∈ ks, RT cfg k) := fun ks h =>
  have hk : ∀ k ∈ ks, RT cfg k := fun k hk => frag_rt k ((FragL_iff ks).1 h k hk)
  ⟨rt_list ks fun k hk' => (hk k hk').1, hk⟩

/-- the round trip preserves meaning and leaves, on `Frag cfg`: `from_json(to_json(t))` is a model over the same leaf variables
    with the same bounds (as a multiset of occurrences) that evaluates identically on every assignment -/
theorem frag_roundtrip (t : P) (h : Frag cfg t) :
    ∃ a, PJ.toAst cfg (toJson t) = some a ∧ (∀ σ, evalPt σ a.build = evalPt σ t) ∧ (leafList a.build).Perm (leafList t) :=
  (frag_rt t h).1

/-! ## The fragment with negations: `Imply`, and everything `negate` / `Not` produce

`Imply(c, d)` is held as `Any(c.negate(), d)` and written as `{"condition": c.negate().negate().to_json(), "consequence": …}`;
`from_json` negates the condition it reads once more.  What `toJsonNeg` writes reads back as the complement (`nrt_node`), for
every node whose children read back.  Assignments are in-bounds (`Good σ t`): the inward push of a negation is exact only
there (C05). -/

theorem leaf_eta : ∀ a : P, a.isLeaf = true → P.leaf a.id a.bnd = a
  | .leaf .., _ => rfl
  | .node .., h => by cases h

/-- the children's JSON reads back as constructor calls whose models sum alike (and stay `Good`) -/
def RTL (cfg : Bool) (ks : List P) : Prop :=
  ∃ as, PJ.toAstL cfg (toJsonL ks) = some as ∧
    ∀ σ, GoodL σ ks → sumPt σ ((Ast.buildL as).map (·.2)) = sumPt σ ks ∧ GoodL σ ((Ast.buildL as).map (·.2))

/-- the JSON of the negated compound children reads back as models summing to (#compounds − their sum) -/
def NRTL (cfg : Bool) (ks : List P) : Prop :=
  ∃ cs, PJ.toAstL cfg (negJsonComps ks) = some cs ∧
    ∀ σ, GoodL σ ks → sumPt σ ((Ast.buildL cs).map (·.2)) = (comps ks).length - sumPt σ (comps ks) ∧
      GoodL σ ((Ast.buildL cs).map (·.2))

/-- `from_json (t.negate().to_json())` is a compound that evaluates to the complement of `t` -/
def NRT (cfg : Bool) (t : P) : Prop :=
  ∃ a, PJ.toAst cfg (toJsonNeg t) = some a ∧ a.isAtom = false ∧ a.build.isLeaf = false ∧
    ∀ σ, Good σ t → evalPt σ a.build = 1 - evalPt σ t ∧ Good σ a.build

/-- `from_json (t.to_json())` evaluates like `t` on every in-bounds assignment (and stays `Good`) -/
def RTN (cfg : Bool) (t : P) : Prop :=
  ∃ a, PJ.toAst cfg (toJson t) = some a ∧ ∀ σ, Good σ t → evalPt σ a.build = evalPt σ t ∧ Good σ a.build

theorem rtn_leaf (k : P) (h : k.isLeaf = true) : RTN cfg k := by
  rw [← leaf_eta k h]
  exact ⟨.var k.id k.bnd, by rw [toJson]; exact PJ.toAst_leafJ .., fun σ hg => ⟨rfl, hg⟩⟩

theorem rebuilt_facts : ∀ ks : List P, (∀ k ∈ ks, RTN cfg k) →
    ∃ as, PJ.toAstL cfg (toJsonL ks) = some as ∧ ∀ σ, GoodL σ ks →
      sumPt σ (as.map Ast.build) = sumPt σ ks ∧ GoodL σ (as.map Ast.build) ∧
      ((∀ k ∈ ks, 0 ≤ evalPt σ k) → ∀ k' ∈ as.map Ast.build, 0 ≤ evalPt σ k') := by
  intro ks h
  obtain ⟨f, has, hf⟩ := PJ.toAstL_lift toJson ks h
  refine ⟨_, toJsonL_eq ks ▸ has, fun σ hg => ?_⟩
  have hf := fun k hk => hf k hk σ ((GoodL_iff σ ks).1 hg k hk)
  rw [List.map_map]
  exact ⟨sumPt_map_congr σ fun k hk => (hf k hk).1, (GoodL_iff ..).2 (List.forall_mem_map.2 fun k hk => (hf k hk).2),
    fun hnn => List.forall_mem_map.2 fun k hk => (hf k hk).1 ▸ hnn k hk⟩

theorem rtl_of_forall (ks : List P) (h : ∀ k ∈ ks, RTN cfg k) : RTL cfg ks := by
  obtain ⟨as, has, hA⟩ := rebuilt_facts ks h
  exact ⟨as, has, fun σ hg => by rw [Ast.buildL_snd]; exact ⟨(hA σ hg).1, (hA σ hg).2.1⟩⟩

theorem nrtl_of_forall (ks : List P) (h : ∀ k ∈ ks, k.isLeaf = false → NRT cfg k) : NRTL cfg ks := by
  rw [NRTL, negJsonComps_eq]
  obtain ⟨f, hcs, hf⟩ := PJ.toAstL_lift (cfg := cfg) toJsonNeg (comps ks) fun k hk =>
    h k (mem_comps.1 hk).1 (mem_comps.1 hk).2
  refine ⟨_, hcs, fun σ hg => ?_⟩
  have hf := fun k hk => (hf k hk).2.2 σ ((GoodL_iff σ ks).1 hg k (mem_comps.1 hk).1)
  rw [Ast.buildL_snd, List.map_map, sumPt_eq, sumPt_eq]
  exact ⟨List.sum_map_compl fun k hk => (hf k hk).1, (GoodL_iff ..).2 (List.forall_mem_map.2 fun k hk => (hf k hk).2)⟩

theorem rtn_plain {i b s v ks m} (hc : Plain cfg s v ks m) (hL : RTL cfg ks) : RTN cfg (.node i b s v ks m) := by
  obtain ⟨as, has, hA⟩ := hL
  obtain ⟨hs, a, var, sgn, cls, ha, hb, hsg⟩ := back_plain (i := i) (b := b) hc has
  refine ⟨a, ha, fun σ hg => ?_⟩
  obtain ⟨hsum, hgood⟩ := hA σ (good_kids hg).2
  rw [hb]
  exact ⟨evalPt_rebuilt σ hsg hsum, ((goodInv σ).mkAtLeast ..).2 ⟨hsg ▸ hs, forall_orderArgs.2 (goodL_args.1 hgood)⟩⟩

/-- a group of negated atoms is an `AtLeast` node over leaves -/
theorem rtn_negGroup (l : List P) (hl : ∀ a ∈ l, a.isLeaf = true) : RTN cfg (negGroup l) :=
  rtn_plain (Or.inl ⟨rfl, Or.inr rfl⟩) (rtl_of_forall l fun a ha => rtn_leaf a (hl a ha))

theorem sumPt_negKids (σ) (ks : List P) (hg : GoodL σ ks) :
    sumPt σ (negKids ks) = (comps ks).length - sumPt σ (comps ks) := by
  rw [sumPt_perm σ (negKids_perm ks), ← C05.negPairs_sum σ ks hg.1 hg.2, negPairs_eq, List.map_map]; rfl

/-- the negation's JSON reads back as the complement, for a node of any class whose children read back: it evaluates like the
    negation, which is the complement (C05) -/
theorem nrt_node (i b s v ks m) (hs : s = 1 ∨ s = -1) (hL : RTL cfg ks) (hN : NRTL cfg ks) : NRT cfg (.node i b s v ks m) := by
  obtain ⟨as, has, hA⟩ := hL
  obtain ⟨cs, hcs, hC⟩ := hN
  -- both forms of `negate_node` finish alike: an "AtLeast" over JSON that reads back as models summing like the negation's children
  have fin : ∀ {s' v' : Int} {js : List PJ} {xs : List Ast} {ks' : List P} {i' b' m'},
      negate (.node i b s v ks m) = .node i' b' s' v' ks' m' → (s' = 1 ∨ s' = -1) → PJ.toAstL cfg js = some xs →
      (∀ σ, Good σ (.node i b s v ks m) →
        sumPt σ ((Ast.buildL xs).map (·.2)) = sumPt σ ks' ∧ GoodL σ ((Ast.buildL xs).map (·.2))) →
      ∃ a, PJ.toAst cfg (.node (some "AtLeast") (idJ i m) (some v') (signJ s' v') true js none none none []) = some a ∧
        a.isAtom = false ∧ a.build.isLeaf = false ∧
        ∀ σ, Good σ (.node i b s v ks m) → evalPt σ a.build = 1 - evalPt σ (.node i b s v ks m) ∧ Good σ a.build := by
    intro s' v' js xs ks' i' b' m' hn hs' hjs hx
    have hsg := sgnOf_signJ s' v' hs'
    refine ⟨.atLeast v' xs (idJ i m) (signJ s' v'), by simp [PJ.toAst, hjs], rfl, mkAtLeast_isLeaf .., fun σ hg => ?_⟩
    obtain ⟨hsum, hgood⟩ := hx σ hg
    rw [← C05.negate_compl σ _ hg.1 hg.2 rfl, hn]
    exact ⟨evalPt_rebuilt σ hsg hsum, ((goodInv σ).mkAtLeast ..).2 ⟨hsg.symm ▸ hs', forall_orderArgs.2 (goodL_args.1 hgood)⟩⟩
  have hn := negate_node i b s v ks m
  rw [NRT, toJsonNeg_node]
  cases hp : negPush s v ks with
  | none =>
      rw [hp] at hn
      refine fin hn (by omega) has fun σ hg => ?_
      obtain ⟨hsum, hgood⟩ := hA σ (good_kids hg).2
      exact ⟨by rw [hsum, sumPt_sort], hgood⟩
  | some ex =>
      rw [hp] at hn
      obtain ⟨es, hes, hE⟩ : RTL cfg ex := rtl_of_forall ex fun x hx => by
        obtain ⟨l, hl, rfl⟩ := mem_negAtoms (negPush_some hp).2.2 hx
        exact rtn_negGroup l fun a ha => (List.mem_filter.1 (hl a ha)).2
      refine fin hn (.inl rfl) (PJ.toAstL_append_some _ _ _ _ hcs hes) fun σ hg => ?_
      have hgk := (good_kids hg).2
      have hgn := (GoodL_append ..).1 (good_kids (hn ▸ good_negate σ _ hg)).2
      obtain ⟨c1, c2⟩ := hC σ hgk
      obtain ⟨e1, e2⟩ := hE σ hgn.2
      rw [Ast.buildL_append, List.map_append, sumPt_append, sumPt_append, GoodL_append, c1, e1, sumPt_negKids σ ks hgk]
      exact ⟨rfl, c2, e2⟩

theorem dflt_mkCcAny (args : List (Bool × P)) (dflt) (oid) : (mkCcAny args dflt oid).mt.dflt = dflt := by
  rw [P.mkCcAny_node]; rfl

theorem dflt_mkCcXor (args : List (Bool × P)) (dflt) (oid) : (mkCcXor args dflt oid).mt.dflt = dflt := by
  cases dflt with
  | nil => rw [mkCcXor_nil, mkXor_eq, mkAtLeast_eq]; rfl
  | cons d ds => obtain ⟨_, _, e⟩ := mkCcXor_node args d ds oid; rw [e]; rfl

/-- defaults are kept: whenever the configurator reads back what a `cc.Any` / `cc.Xor` node wrote, the model it builds carries
    the same `default` -/
theorem defaults_kept (i b s v ks) (m : Meta) (hc : m.cls = .ccAny ∨ m.cls = .ccXor) :
    ∀ a, PJ.toAst true (toJson (.node i b s v ks m)) = some a → a.build.mt.dflt = m.dflt := by
  intro a ha
  -- an "Any" is read as a `cc.Any` if it has a default and as a plain `Any` (no default) if not; an "Xor" as a `cc.Xor`
  have any : ∀ js, PJ.toAst true (.node (some "Any") (idJ i m) none none true js none none none m.dflt) = some a →
      a.build.mt.dflt = m.dflt := by
    intro js h
    cases hd : m.dflt with
    | nil =>
        rw [hd] at h; simp [PJ.toAst] at h
        obtain ⟨as, _, rfl⟩ := h
        rw [Ast.build, mkAny_eq]; rfl
    | cons d ds =>
        rw [hd] at h; simp [PJ.toAst] at h
        obtain ⟨as, _, rfl⟩ := h
        rw [Ast.build]; exact dflt_mkCcAny ..
  have xor : ∀ js dflt, PJ.toAst true (.node (some "Xor") (idJ i m) none none true js none none none dflt) = some a →
      a.build.mt.dflt = dflt := by
    intro js dflt h
    simp [PJ.toAst] at h
    obtain ⟨as, _, rfl⟩ := h
    rw [Ast.build]; exact dflt_mkCcXor ..
  rcases hc with hc | hc <;> simp only [toJson, hc] at ha
  · split at ha <;> exact any _ ha
  · split at ha
    · exact xor _ _ ha
    · rename_i hd; rw [Decidable.not_not.1 hd]; exact xor _ _ ha

theorem good_mkCcAny (σ) (args : List (Bool × P)) (dflt oid) (h : GoodL σ (args.map (·.2))) :
    Good σ (mkCcAny args dflt oid) := ((goodInv σ).mkCcAny args dflt oid).2 (goodL_args.1 h)

theorem good_mkCcXor (σ) (args : List (Bool × P)) (dflt oid) (h : GoodL σ (args.map (·.2))) :
    Good σ (mkCcXor args dflt oid) := ((goodInv σ).mkCcXor args dflt oid).2 ⟨.inr rfl, goodL_args.1 h⟩

/-! ## A configurator rule: `cc.Any(*alternatives, default=…)` / `cc.Xor(…)` through the configurator's class map

What `to_json` writes for a defaulted choice is, in both classes and both forms of a `cc.Any`, one node over the JSON of the
alternatives in some order (`toJson_mkCcAny`, `toJson_mkCcXor`): the configurator reads it back as the same class with the
same default over what the alternatives read back as. -/

/-- the alternatives that are items (variables) never take negative values -/
def ItemsNonneg (args : List (Bool × P)) : Prop := ∀ k ∈ args.map (·.2), k.isLeaf = true → 0 ≤ k.bnd.lo

/-- `ItemsNonneg`, and no alternative carries a priority tag of its own (free for what constructor expressions build:
    `altArgs_built`) -/
def AltArgs (args : List (Bool × P)) : Prop := ∀ k ∈ args.map (·.2), k.mt.prio = none ∧ (k.isLeaf = true → 0 ≤ k.bnd.lo)

/-- at most one alternative carries the first default's id (item ids are distinct) -/
def OneDefault (args : List (Bool × P)) (d : String) : Prop := (args.filter (fun x => x.2.isLeaf && x.2.id == d)).length ≤ 1

/-- a rule that comes back as itself, read as a constructor call, not a bare string -/
def RTX (r : P) : Prop := ∃ a, PJ.toAst true (toJson r) = some a ∧ a.build = r ∧ a.isStr = false

/-- a proposition (an item, or a rule) that is read back as itself -/
def RTX' (d : P) : Prop := ∃ a, PJ.toAst true (toJson d) = some a ∧ a.build = d

theorem rtx'_of_rtx (d : P) (h : RTX d) : RTX' d := let ⟨a, h1, h2, _⟩ := h; ⟨a, h1, h2⟩

theorem rtx'_leaf (k : P) (h : k.isLeaf = true) : RTX' k :=
  ⟨.var k.id k.bnd, by rw [toJson_leaf k h]; exact PJ.toAst_leafJ .., leaf_eta k h⟩

theorem rtn_of_rtx' (k : P) (h : RTX' k) : RTN true k :=
  let ⟨a, ha, hb⟩ := h; ⟨a, ha, fun _ hg => by rw [hb]; exact ⟨rfl, hg⟩⟩

theorem rtx'_list (ks : List P) (h : ∀ k ∈ ks, RTX' k) :
    ∃ as, PJ.toAstL true (toJsonL ks) = some as ∧ (Ast.buildL as).map (·.2) = ks := by
  obtain ⟨f, has, hf⟩ := PJ.toAstL_lift toJson ks h
  refine ⟨_, toJsonL_eq ks ▸ has, ?_⟩
  rw [Ast.buildL_snd, List.map_map]; exact (List.map_congr_left hf).trans (List.map_id' ks)

theorem leaf_untagged : ∀ k : P, k.isLeaf = true → k.mt.prio = none
  | .leaf .., _ => rfl
  | .node .., h => by cases h

/-- a defaulted `cc.Xor` over items, read back through the configurator's class map, has the same default, evaluates identically
    (items' values not negative) and stays `Good` -/
theorem ccXor_items_roundtrip (args : List (Bool × P)) (d : String × Bnd) (ds : List (String × Bnd)) (oid)
    (hleaf : ∀ k ∈ args.map (·.2), k.isLeaf = true) :
    ∃ a, PJ.toAst true (toJson (mkCcXor args (d :: ds) oid)) = some a ∧ a.build.mt.dflt = d :: ds ∧
      (∀ σ, (∀ k ∈ args.map (·.2), 0 ≤ evalPt σ k) → evalPt σ a.build = evalPt σ (mkCcXor args (d :: ds) oid)) ∧
      ∀ σ, GoodL σ (args.map (·.2)) → Good σ a.build := by
  have hX := sortArgs_perm args
  obtain ⟨as, has, hb⟩ := rtx'_list _ fun k hk => rtx'_leaf k (hleaf k (hX.mem_iff.1 hk))
  refine ⟨.ccXor as (d :: ds) oid, by rw [toJson_mkCcXor]; simp [PJ.toAst, has], dflt_mkCcXor .., fun σ hnn => ?_, fun σ hg => ?_⟩
  · rw [Ast.build, C14.evalPt_mkCcXor σ _ _ _ (by rw [hb]; exact fun k hk => hnn k (hX.mem_iff.1 hk)),
      C14.evalPt_mkCcXor σ _ _ _ hnn, hb, sumPt_perm σ hX]
  · exact good_mkCcXor σ _ _ _ (by rw [hb]; exact (goodL_perm σ hX).2 hg)

theorem toAstL_append_cfg (cfg : Bool) : ∀ (xs ys : List PJ) (as bs : List Ast), PJ.toAstL cfg xs = some as →
    PJ.toAstL cfg ys = some bs → PJ.toAstL cfg (xs ++ ys) = some (as ++ bs) := PJ.toAstL_append_some

/-- `ccXor_items_roundtrip` for a defaulted `cc.Any` over items, at most one of which carries the default's id (item ids are
    distinct) -/
theorem ccAny_items_roundtrip (args : List (Bool × P)) (d : String × Bnd) (ds : List (String × Bnd)) (oid)
    (hleaf : ∀ k ∈ args.map (·.2), k.isLeaf = true)
    (hone : (args.filter (fun x => x.2.isLeaf && x.2.id == d.1)).length ≤ 1) :
    ∃ a, PJ.toAst true (toJson (mkCcAny args (d :: ds) oid)) = some a ∧ a.build.mt.dflt = d :: ds ∧
      (∀ σ, (∀ k ∈ args.map (·.2), 0 ≤ evalPt σ k) → evalPt σ a.build = evalPt σ (mkCcAny args (d :: ds) oid)) ∧
      ∀ σ, GoodL σ (args.map (·.2)) → Good σ a.build := by
  obtain ⟨X, hX, hj⟩ := toJson_mkCcAny args d ds oid (fun k hk => leaf_untagged k (hleaf k hk)) hone
  obtain ⟨as, has, hb⟩ := rtx'_list X fun k hk => rtx'_leaf k (hleaf k (hX.mem_iff.1 hk))
  refine ⟨.ccAny as (d :: ds) oid, by rw [hj]; simp [PJ.toAst, has], dflt_mkCcAny .., fun σ hnn => ?_, fun σ hg => ?_⟩
  · rw [Ast.build, C14.evalPt_mkCcAny σ _ _ _ (by rw [hb]; exact fun k hk => hnn k (hX.mem_iff.1 hk)),
      C14.evalPt_mkCcAny σ _ _ _ hnn, hb, sumPt_perm σ hX]
  · exact good_mkCcAny σ _ _ _ (by rw [hb]; exact (goodL_perm σ hX).2 hg)

/-- `ccAny_items_roundtrip` for alternatives of any kind that read back and carry no priority tag: equal values wherever the
    alternatives' values are not negative -/
theorem ccAny_roundtrip_gen (args : List (Bool × P)) (d : String × Bnd) (ds : List (String × Bnd)) (oid)
    (hun : ∀ k ∈ args.map (·.2), k.mt.prio = none)
    (hone : OneDefault args d.1)
    (hR : ∀ k ∈ args.map (·.2), RTN true k) :
    ∃ a, PJ.toAst true (toJson (mkCcAny args (d :: ds) oid)) = some a ∧ a.build.mt.dflt = d :: ds ∧
      (∀ σ, GoodL σ (args.map (·.2)) → (∀ k ∈ args.map (·.2), 0 ≤ evalPt σ k) →
        evalPt σ a.build = evalPt σ (mkCcAny args (d :: ds) oid) ∧ Good σ a.build) ∧
      ∃ as X, a = .ccAny as (d :: ds) oid ∧ X.Perm (args.map (·.2)) ∧ PJ.toAstL true (toJsonL X) = some as := by
  obtain ⟨X, hX, hj⟩ := toJson_mkCcAny args d ds oid hun hone
  obtain ⟨as, has, hA⟩ := rebuilt_facts (cfg := true) X fun k hk => hR k (hX.mem_iff.1 hk)
  refine ⟨.ccAny as (d :: ds) oid, by rw [hj]; simp [PJ.toAst, has], dflt_mkCcAny .., fun σ hg hnn => ?_, as, X, rfl, hX, has⟩
  obtain ⟨e1, e2, e3⟩ := hA σ ((goodL_perm σ hX).2 hg)
  rw [← Ast.buildL_snd] at e1 e2 e3
  rw [Ast.build, C14.evalPt_mkCcAny σ _ _ _ (e3 fun k hk => hnn k (hX.mem_iff.1 hk)),
    C14.evalPt_mkCcAny σ _ _ _ hnn, e1, sumPt_perm σ hX]
  exact ⟨rfl, good_mkCcAny σ _ _ _ e2⟩

/-- `ccXor_items_roundtrip` for alternatives of any kind that read back -/
theorem ccXor_roundtrip_gen (args : List (Bool × P)) (d : String × Bnd) (ds : List (String × Bnd)) (oid)
    (hR : ∀ k ∈ args.map (·.2), RTN true k) :
    ∃ a, PJ.toAst true (toJson (mkCcXor args (d :: ds) oid)) = some a ∧ a.build.mt.dflt = d :: ds ∧
      (∀ σ, GoodL σ (args.map (·.2)) → (∀ k ∈ args.map (·.2), 0 ≤ evalPt σ k) →
        evalPt σ a.build = evalPt σ (mkCcXor args (d :: ds) oid) ∧ Good σ a.build) ∧
      ∃ as, a = .ccXor as (d :: ds) oid ∧ PJ.toAstL true (toJsonL (sortById (orderArgs args))) = some as := by
  have hX := sortArgs_perm args
  obtain ⟨as, has, hA⟩ := rebuilt_facts (cfg := true) _ fun k hk => hR k (hX.mem_iff.1 hk)
  refine ⟨.ccXor as (d :: ds) oid, by rw [toJson_mkCcXor]; simp [PJ.toAst, has], dflt_mkCcXor .., fun σ hg hnn => ?_, as, rfl, has⟩
  obtain ⟨e1, e2, e3⟩ := hA σ ((goodL_perm σ hX).2 hg)
  rw [← Ast.buildL_snd] at e1 e2 e3
  rw [Ast.build, C14.evalPt_mkCcXor σ _ _ _ (e3 fun k hk => hnn k (hX.mem_iff.1 hk)),
    C14.evalPt_mkCcXor σ _ _ _ hnn, e1, sumPt_perm σ hX]
  exact ⟨rfl, good_mkCcXor σ _ _ _ e2⟩

/-- a defaulted `cc.Any`, as held -/
def CcAnyRule (t : P) : Prop :=
  ∃ args d ds oid, t = mkCcAny args (d :: ds) oid ∧ AltArgs args ∧ OneDefault args d.1

/-- a defaulted `cc.Xor`, as held -/
def CcXorRule (t : P) : Prop :=
  ∃ args d ds oid, t = mkCcXor args (d :: ds) oid ∧ AltArgs args ∧ OneDefault args d.1

/-- every alternative is a child of the node or of its tagged helper -/
theorem mkCcAny_args_in_kids (args : List (Bool × P)) (dflt oid) : ∀ x ∈ args.map (·.2),
    x ∈ (mkCcAny args dflt oid).kids ∨ ∃ H ∈ (mkCcAny args dflt oid).kids, x ∈ H.kids := by
  intro x hx
  rw [P.mkCcAny_node, P.kids]
  rcases ccArgs_cases args dflt with e | ⟨d, b, ds, _, e⟩ <;> rw [e]
  · exact Or.inl ((sortArgs_perm args).mem_iff.2 hx)
  · simp only [(sortArgs_perm _).mem_iff, List.map_append, List.mem_append, List.map_cons, List.map_nil, List.mem_singleton]
    rcases List.mem_append.1 ((C14.filter_perm_split (fun x => x.2.isLeaf && x.2.id == d) args).mem_iff.2 hx) with hx | hx
    · exact Or.inl (Or.inl hx)
    · exact Or.inr ⟨_, Or.inr rfl, by rw [ccHelper, setPrio_kids, mkAny_eq, P.kids]; exact (sortArgs_perm _).mem_iff.2 hx⟩

/-- every alternative is a child of the "at most one" half -/
theorem mkCcXor_args_in_kids (args : List (Bool × P)) (d ds oid) : ∀ x ∈ args.map (·.2),
    ∃ M ∈ (mkCcXor args (d :: ds) oid).kids, x ∈ M.kids := by
  intro x hx
  exact ⟨mkAtMost 1 (orderArgs args) none, (mkCcXor_kids args d ds oid).mem_iff.2 (List.mem_cons_of_mem _ (List.mem_cons_self ..)),
    by rw [mkAtMost, mkAtLeast_kids]; exact (sortArgs_perm args).mem_iff.2 hx⟩

theorem alt_nonneg (σ) (k : P) (hl : k.isLeaf = true → 0 ≤ k.bnd.lo) (hg : Good σ k) : 0 ≤ evalPt σ k := by
  cases k with
  | node i b s v ks m => rcases evalPt01 σ (.node i b s v ks m) rfl with h | h <;> omega
  | leaf i b => exact Int.le_trans (hl rfl) hg.2.1

theorem rtn_ccAny (t : P) (h : CcAnyRule t) (hk : ∀ k ∈ t.kids, RTN true k)
    (hkk : ∀ k ∈ t.kids, ∀ k' ∈ k.kids, RTN true k') : RTN true t := by
  obtain ⟨args, d, ds, oid, rfl, hit, hone⟩ := h
  have hR : ∀ x ∈ args.map (·.2), RTN true x := fun x hx => by
    rcases mkCcAny_args_in_kids args (d :: ds) oid x hx with h | ⟨H, hH, h⟩
    · exact hk x h
    · exact hkk H hH x h
  obtain ⟨a, ha, _, hev, _⟩ := ccAny_roundtrip_gen args d ds oid (fun k hk => (hit k hk).1) hone hR
  refine ⟨a, ha, fun σ hg => ?_⟩
  have hgl := goodL_args.2 (((goodInv σ).mkCcAny ..).1 hg)
  exact hev σ hgl (fun k hk => alt_nonneg σ k (hit k hk).2 ((GoodL_iff σ _).1 hgl k hk))

theorem rtn_ccXor (t : P) (h : CcXorRule t) (hkk : ∀ k ∈ t.kids, ∀ k' ∈ k.kids, RTN true k') : RTN true t := by
  obtain ⟨args, d, ds, oid, rfl, hit, _⟩ := h
  have hR : ∀ x ∈ args.map (·.2), RTN true x := fun x hx => by
    obtain ⟨M, hM, h⟩ := mkCcXor_args_in_kids args d ds oid x hx
    exact hkk M hM x h
  obtain ⟨a, ha, _, hev, _⟩ := ccXor_roundtrip_gen args d ds oid hR
  refine ⟨a, ha, fun σ hg => ?_⟩
  have hgl := goodL_args.2 (((goodInv σ).mkCcXor ..).1 hg).2
  exact hev σ hgl (fun k hk => alt_nonneg σ k (hit k hk).2 ((GoodL_iff σ _).1 hgl k hk))

/-- an `Imply` node as held: the negated condition `k` (a compound) and the consequence `d`, in either order, `c` = where `k` is -/
def ImplyShape (ks : List P) (c : Nat) : Prop :=
  ∃ k d, k.isLeaf = false ∧ ((ks = [k, d] ∧ c = 0) ∨ (ks = [d, k] ∧ c = 1))

/-- an `XNor` node as held: `Any(AtLeast(1, args).negate(), AtMost(1, args).negate())` — the second half is never pushed
    inwards (`+args ≥ 2`) and is the one `to_json` reads the propositions from (`c` = where it is) -/
def XNorShape (ks : List P) (c : Nat) : Prop :=
  ∃ i1 b1 m1 args' i2 b2 m2 args, args'.Perm args ∧
    ((ks = [negate (.node i1 b1 1 1 args' m1), .node i2 b2 1 2 args m2] ∧ c = 1) ∨
     (ks = [.node i2 b2 1 2 args m2, negate (.node i1 b1 1 1 args' m1)] ∧ c = 0))

mutual
/-- since the class `AtLeast` admits any value and sign, every model that `negate` / `Not` produce from the fragment is in it
    as well (`fragN_negate`) -/
def FragN (cfg : Bool) : P → Prop
  | .leaf _ _ => True
  | .node i b s v ks m =>
      ((m.cls = .atLeast ∧ (s = 1 ∨ s = -1)) ∨ (m.cls = .atMost ∧ s = -1) ∨ (m.cls = .any ∧ s = 1 ∧ v = 1) ∨
       (m.cls = .all ∧ v = ks.length ∧ s = (if v > 0 then 1 else -1) ∧ DistinctRT cfg ks) ∨
       ((m.cls = .xor ∨ m.cls = .exactlyOne) ∧ s = 1 ∧ v = 2 ∧ XorShape ks) ∨
       (m.cls = .imply ∧ s = 1 ∧ v = 1 ∧ ImplyShape ks m.cond) ∨
       (m.cls = .xnor ∧ s = 1 ∧ v = 1 ∧ XNorShape ks m.cond) ∨
       (m.cls = .stingy ∧ cfg = true ∧ v = ks.length ∧ s = (if v > 0 then 1 else -1) ∧ DistinctRT cfg ks) ∨
       (cfg = true ∧ CcAnyRule (.node i b s v ks m)) ∨ (cfg = true ∧ CcXorRule (.node i b s v ks m))) ∧ FragNL cfg ks
def FragNL (cfg : Bool) : List P → Prop
  | [] => True
  | k :: ks => FragN cfg k ∧ FragNL cfg ks
end

theorem FragNL_iff (ks : List P) : FragNL cfg ks ↔ ∀ k ∈ ks, FragN cfg k :=
  forall_of_rec (by rw [FragNL]) (fun _ _ => by rw [FragNL]) ks

theorem fragN_node (i b s v ks) (m : Meta) : FragN cfg (.node i b s v ks m) ↔
    ((m.cls = .atLeast ∧ (s = 1 ∨ s = -1)) ∨ (m.cls = .atMost ∧ s = -1) ∨ (m.cls = .any ∧ s = 1 ∧ v = 1) ∨
     (m.cls = .all ∧ v = ks.length ∧ s = (if v > 0 then 1 else -1) ∧ DistinctRT cfg ks) ∨
     ((m.cls = .xor ∨ m.cls = .exactlyOne) ∧ s = 1 ∧ v = 2 ∧ XorShape ks) ∨
     (m.cls = .imply ∧ s = 1 ∧ v = 1 ∧ ImplyShape ks m.cond) ∨
     (m.cls = .xnor ∧ s = 1 ∧ v = 1 ∧ XNorShape ks m.cond) ∨
     (m.cls = .stingy ∧ cfg = true ∧ v = ks.length ∧ s = (if v > 0 then 1 else -1) ∧ DistinctRT cfg ks) ∨
     (cfg = true ∧ CcAnyRule (.node i b s v ks m)) ∨ (cfg = true ∧ CcXorRule (.node i b s v ks m))) ∧
    ∀ k ∈ ks, FragN cfg k := by
  rw [FragN, FragNL_iff]

theorem fragN_node_inv {i b s v ks m} (h : FragN cfg (.node i b s v ks m)) : (s = 1 ∨ s = -1) ∧ ∀ k ∈ ks, FragN cfg k := by
  obtain ⟨hc, hk⟩ := (fragN_node ..).1 h
  refine ⟨?_, hk⟩
  rcases hc with ⟨_, hs⟩ | ⟨_, hs⟩ | ⟨_, hs, _⟩ | ⟨_, _, hs, _⟩ | ⟨_, hs, _⟩ | ⟨_, hs, _⟩ | ⟨_, hs, _⟩ | ⟨_, _, _, hs, _⟩ |
    ⟨_, _, _, _, _, he, _⟩ | ⟨_, args, d, ds, oid, he, _⟩
  · exact hs
  · exact Or.inr hs
  · exact Or.inl hs
  · rw [hs]; split <;> simp
  · exact Or.inl hs
  · exact Or.inl hs
  · exact Or.inl hs
  · rw [hs]; split <;> simp
  · exact Or.inl (P.node.inj (he.trans (P.mkCcAny_node ..))).2.2.1
  · obtain ⟨_, _, e⟩ := mkCcXor_node args d ds oid
    exact Or.inl (P.node.inj (he.trans e)).2.2.1

theorem rtn_stingy (i b s v ks m) (hcls : m.cls = .stingy) (hv : v = ks.length) (hs : s = (if v > 0 then 1 else -1))
    (hd : DistinctRT true ks) (hL : RTL true ks) : RTN true (.node i b s v ks m) :=
  rtn_plain (Or.inr (Or.inr (Or.inr ⟨Or.inr ⟨hcls, rfl⟩, hv, hs, hd⟩))) hL

theorem rtn_xor (i b ks m) (hcls : m.cls = .xor ∨ m.cls = .exactlyOne) (hx : XorShape ks)
    (hkids : ∀ k ∈ ks, RTL cfg k.kids) : RTN cfg (.node i b 1 2 ks m) := by
  obtain ⟨i1, b1, m1, i2, b2, m2, args, hks⟩ := hx
  have hL : .node i1 b1 1 1 args m1 ∈ ks := by rcases hks with rfl | rfl <;> simp
  obtain ⟨as', has', hA'⟩ : RTL cfg args := hkids _ hL
  obtain ⟨a, oid, cls, ha, hb⟩ := back_xor (cfg := cfg) (i := i) (b := b) (s := 1) (v := 2) (ks := ks) hcls
    (by rcases hks with rfl | rfl <;> exact has')
  refine ⟨a, ha, fun σ hg => ?_⟩
  obtain ⟨hsum, hgd⟩ := hA' σ (good_kids ((good_node_iff.1 hg).2 _ hL)).2
  rw [hb, C04.evalPt_mkXor, hsum, evalPt_xorShape σ hks]
  exact ⟨rfl, ((goodInv σ).mkXor ..).2 ⟨.inr rfl, goodL_args.1 hgd⟩⟩

/-- `Imply`: the condition is written as the negation of the negated condition held, and negated again when read -/
theorem rtn_imply (i b ks m) (hcls : m.cls = .imply) (hx : ImplyShape ks m.cond)
    (hN : ∀ k ∈ ks, k.isLeaf = false → NRT cfg k) (hR : ∀ k ∈ ks, RTN cfg k) : RTN cfg (.node i b 1 1 ks m) := by
  obtain ⟨k, d, hkl, hks⟩ := hx
  have hkm : k ∈ ks := by rcases hks with ⟨rfl, _⟩ | ⟨rfl, _⟩ <;> simp
  have hdm : d ∈ ks := by rcases hks with ⟨rfl, _⟩ | ⟨rfl, _⟩ <;> simp
  obtain ⟨c', hc', _, hcleaf, hC⟩ := hN k hkm hkl
  obtain ⟨d', hd', hD⟩ := hR d hdm
  have hjson := imply_json hks
  refine ⟨.imply c' d' (idJ i m), by simp [toJson, hcls, PJ.toAst, hjson.1, hjson.2, PJ.toAstOpt, hc', hd'], fun σ hg => ?_⟩
  have hgk := (good_node_iff.1 hg).2
  obtain ⟨hevc, hgc⟩ := hC σ (hgk k hkm)
  obtain ⟨hevd, hgd⟩ := hD σ (hgk d hdm)
  have hk01 := evalPt01 σ k hkl
  have hnot := C04.evalPt_mkNot σ c'.isAtom (c'.isStr, c'.build) hgc (fun _ => hcleaf) (by rw [hevc]; omega)
  refine ⟨?_, (goodInv σ).mkImply _ _ _ _ hgc hgd⟩
  rw [Ast.build, mkImply, P.evalPt_setCond, C04.evalPt_mkAny, evalPt, sumPt_pair σ (hks.imp And.left And.left)]
  simp only [List.map_cons, List.map_nil, sumPt, hnot, hevc, hevd]
  omega

theorem evalPt_xnorShape (σ) {i b m i1 b1 m1 i2 b2 m2} {args' args ks : List P} (hp : args'.Perm args) (hg : GoodL σ args)
    (h : ks = [negate (.node i1 b1 1 1 args' m1), .node i2 b2 1 2 args m2] ∨
      ks = [.node i2 b2 1 2 args m2, negate (.node i1 b1 1 1 args' m1)]) :
    evalPt σ (.node i b 1 1 ks m) = if sumPt σ args = 1 then 0 else 1 := by
  have g := good_node (i := i1) (b := b1) (v := 1) (m := m1) (Or.inl rfl) ((goodL_perm σ hp).2 hg)
  have : (¬ sumPt σ args ≥ 1 ∨ sumPt σ args ≥ 2) ↔ ¬ sumPt σ args = 1 := by omega
  rw [evalPt, sumPt_pair σ h, C05.negate_compl σ _ g.1 g.2 rfl, evalPt, evalPt, sumPt_perm σ hp]
  simp only [Int.one_mul, one_sub_ite, ite_add_ge_one, this]
  exact ite_not ..

/-- `XNor`: rebuilt from the propositions of the half that `negate` never pushes inwards -/
theorem rtn_xnor (i b ks m) (hcls : m.cls = .xnor) (hx : XNorShape ks m.cond)
    (hkids : ∀ k ∈ ks, RTL cfg k.kids) : RTN cfg (.node i b 1 1 ks m) := by
  obtain ⟨i1, b1, m1, args', i2, b2, m2, args, hperm, hks⟩ := hx
  have hB : .node i2 b2 1 2 args m2 ∈ ks := by rcases hks with ⟨rfl, _⟩ | ⟨rfl, _⟩ <;> simp
  obtain ⟨as', has', hA'⟩ : RTL cfg args := hkids _ hB
  have hjson : kidsOfNth ks m.cond = toJsonL args := by
    rcases hks with ⟨rfl, hc⟩ | ⟨rfl, hc⟩ <;> rw [hc] <;> simp [kidsOfNth]
  refine ⟨.xnor as' (idJ i m), by simp [toJson, hcls, PJ.toAst, hjson, has'], fun σ hg => ?_⟩
  have hga := (good_kids ((good_node_iff.1 hg).2 _ hB)).2
  obtain ⟨hsum, hgd⟩ := hA' σ hga
  rw [Ast.build, C04.evalPt_mkXNor σ _ _ hgd, hsum, evalPt_xnorShape σ hperm hga (hks.imp And.left And.left)]
  exact ⟨rfl, (goodInv σ).mkXNor _ _ (goodL_args.1 hgd)⟩

/-- what the induction carries for `t`, and who above `t` needs it: `t` reads back (every class); its children read back as a
    list (`Xor` / `XNor` are rebuilt from the children of one half); the negation of `t` reads back as the complement (the
    condition of an `Imply`); each child reads back (a `cc.Any` over `t` as helper, a `cc.Xor` over `t` as "at most one" half) -/
def ALL (cfg : Bool) (t : P) : Prop :=
  RTN cfg t ∧ RTL cfg t.kids ∧ (t.isLeaf = false → NRT cfg t) ∧ ∀ k ∈ t.kids, RTN cfg k

theorem fragN_rt : ∀ t : P, FragN cfg t → ALL cfg t := by
  intro t
  induction t with
  | leaf i b =>
      exact fun _ => ⟨rtn_leaf _ rfl, rtl_of_forall [] (fun _ h => nomatch h), (fun h => nomatch h), (fun _ h => nomatch h)⟩
  | node i b s v ks m ih =>
      intro h
      obtain ⟨hsign, hk⟩ := fragN_node_inv h
      have hkids : ∀ k ∈ ks, ALL cfg k := fun k hk' => ih k hk' (hk k hk')
      have hL : RTL cfg ks := rtl_of_forall ks fun k hk => (hkids k hk).1
      refine ⟨?_, hL, fun _ => nrt_node i b s v ks m hsign hL (nrtl_of_forall ks fun k hk => (hkids k hk).2.2.1),
        fun k hk => (hkids k hk).1⟩
      rcases ((fragN_node ..).1 h).1 with hc | hc | hc | ⟨hcls, hc⟩ | ⟨hcls, rfl, rfl, hx⟩ | ⟨hcls, rfl, rfl, hx⟩ |
        ⟨hcls, rfl, rfl, hx⟩ | ⟨hcls, rfl, hc⟩ | ⟨rfl, hca⟩ | ⟨rfl, hcx⟩
      · exact rtn_plain (Or.inl hc) hL
      · exact rtn_plain (Or.inr (Or.inl hc)) hL
      · exact rtn_plain (Or.inr (Or.inr (Or.inl hc))) hL
      · exact rtn_plain (Or.inr (Or.inr (Or.inr ⟨Or.inl hcls, hc⟩))) hL
      · exact rtn_xor i b ks m hcls hx fun k hk => (hkids k hk).2.1
      · exact rtn_imply i b ks m hcls hx (fun k hk => (hkids k hk).2.2.1) fun k hk => (hkids k hk).1
      · exact rtn_xnor i b ks m hcls hx fun k hk => (hkids k hk).2.1
      · exact rtn_stingy i b s v ks m hcls hc.1 hc.2.1 hc.2.2 hL
      · exact rtn_ccAny _ hca (fun k hk => (hkids k hk).1) fun k hk => (hkids k hk).2.2.2
      · exact rtn_ccXor _ hcx fun k hk => (hkids k hk).2.2.2

theorem fragN_rtL : ∀ ks : List P, FragNL cfg ks → RTL cfg ks ∧ NRTL cfg ks ∧ ∀ k ∈ ks, ALL cfg k := fun ks h =>
  have hk : ∀ k ∈ ks, ALL cfg k := fun k hk => fragN_rt k ((FragNL_iff ks).1 h k hk)
  ⟨rtl_of_forall ks fun k hk' => (hk k hk').1, nrtl_of_forall ks fun k hk' => (hk k hk').2.2.1, hk⟩

/-- the round trip preserves meaning, with negations: for every model of `FragN cfg`, `from_json(to_json(t))` succeeds and
    evaluates like `t` on every assignment that respects the leaf bounds -/
theorem fragN_roundtrip (t : P) (h : FragN cfg t) :
    ∃ a, PJ.toAst cfg (toJson t) = some a ∧ ∀ σ, Good σ t → evalPt σ a.build = evalPt σ t :=
  let ⟨a, ha, hev⟩ := (fragN_rt t h).1
  ⟨a, ha, fun σ hg => (hev σ hg).1⟩

def idOf : PJ → Option String
  | .var i _ => some i
  | .node _ oid _ _ _ _ _ _ _ _ => oid

/-- for every class: an explicitly given id is written, a generated one is not -/
theorem id_written_iff (i b s v ks) (m : Meta) :
    idOf (toJson (.node i b s v ks m)) = if m.gen then none else some i := by
  show _ = idJ i m
  rw [toJson]; split <;> (try split) <;> rfl

/-! ## What the constructors build lies in the fragment

`FragN cfg` is a predicate on the model held; with the lemmas below `fragN_roundtrip` becomes a statement about constructor
expressions (`build_roundtrip`) — constructor by constructor, not through `CtorInv.build`: `FragN` reads class tags, values
and `cond`, which a `CtorInv` may not. -/

theorem fragN_atLeast_node (i b s v ks) (m : Meta) (hm : m.cls = .atLeast) (hs : s = 1 ∨ s = -1) (hk : ∀ k ∈ ks, FragN cfg k) :
    FragN cfg (.node i b s v ks m) :=
  (fragN_node ..).2 ⟨Or.inl ⟨hm, hs⟩, hk⟩

theorem fragN_negate : ∀ p, FragN cfg p → FragN cfg (negate p) :=
  negate_preserves (kids := fun h => (fragN_node_inv h).2)
    (grp := fun l hl => fragN_atLeast_node _ _ _ _ l _ rfl (Or.inr rfl) hl)
    (hdr := fun _ _ _ ks' h hs hk => fragN_atLeast_node _ _ _ _ ks' _ rfl
      (by have := (fragN_node_inv h).1; omega) hk)

theorem fragN_mkAtLeast (v : Int) (ks : List P) (var sgn) (hs : sgn = none ∨ sgn = some 1 ∨ sgn = some (-1))
    (hk : ∀ k ∈ ks, FragN cfg k) : FragN cfg (mkAtLeast v ks var sgn) := by
  rw [mkAtLeast_eq]
  exact fragN_atLeast_node _ _ _ _ _ _ rfl (sgnOf_pm v hs) fun k h => hk k (mem_sortById.1 h)

theorem fragN_mkAtMost (v : Int) (ks : List P) (var) (hk : ∀ k ∈ ks, FragN cfg k) : FragN cfg (mkAtMost v ks var) := by
  rw [mkAtMost_eq, fragN_node]
  exact ⟨Or.inr (Or.inl ⟨rfl, rfl⟩), fun k h => hk k (mem_sortById.1 h)⟩

theorem fragN_mkAny (args : List (Bool × P)) (oid) (hk : ∀ k ∈ args.map (·.2), FragN cfg k) : FragN cfg (mkAny args oid) := by
  rw [mkAny_eq, fragN_node]
  exact ⟨Or.inr (Or.inr (Or.inl ⟨rfl, rfl, rfl⟩)), fun k h => hk k ((sortArgs_perm args).mem_iff.1 h)⟩

theorem kids_mkCcAny (args : List (Bool × P)) (dflt oid) (hargs : ∀ k ∈ args.map (·.2), FragN cfg k) :
    ∀ k ∈ (mkCcAny args dflt oid).kids, FragN cfg k := by
  rw [P.mkCcAny_node]
  simp only [P.kids, mem_sortById, mem_orderArgs, forall_args] at hargs ⊢
  refine (forall_ccArgs (fun l => ?_) args dflt).2 hargs
  rw [mkAny_eq, setPrio, fragN_node]
  exact ⟨fun h => by simpa only [mem_sortById, forall_orderArgs] using h.2,
    fun h => ⟨Or.inr (Or.inr (Or.inl ⟨rfl, rfl, rfl⟩)), by simpa only [mem_sortById, forall_orderArgs] using h⟩⟩

theorem fragN_mkCcAny_items (args : List (Bool × P)) (d ds oid) (hit : AltArgs args) (hone : OneDefault args d.1)
    (hargs : ∀ k ∈ args.map (·.2), FragN true k) : FragN true (mkCcAny args (d :: ds) oid) := by
  have hk := kids_mkCcAny (cfg := true) args (d :: ds) oid hargs
  have hc : CcAnyRule (mkCcAny args (d :: ds) oid) := ⟨args, d, ds, oid, rfl, hit, hone⟩
  rw [P.mkCcAny_node] at hk hc ⊢
  exact (fragN_node ..).2 ⟨Or.inr (Or.inr (Or.inr (Or.inr (Or.inr (Or.inr (Or.inr (Or.inr (Or.inl ⟨rfl, hc⟩)))))))), hk⟩

/-- `OneDefault` looks at the alternatives only, and only as a multiset -/
theorem oneDefault_iff (A : List (Bool × P)) (d : String) :
    OneDefault A d ↔ ((A.map (·.2)).filter (fun k => k.isLeaf && k.id == d)).length ≤ 1 := by
  rw [List.filter_map, List.length_map]; rfl

theorem oneDefault_sorted (args : List (Bool × P)) (d : String) (h : OneDefault args d) :
    OneDefault ((sortById (orderArgs args)).map (fun c => ((false : Bool), c))) d := by
  rw [oneDefault_iff, map_false_snd, ((sortArgs_perm args).filter _).length_eq]
  exact (oneDefault_iff args d).1 h

theorem fragN_mkCcXor_items (args : List (Bool × P)) (d ds oid) (hit : AltArgs args) (hone : OneDefault args d.1)
    (hargs : ∀ k ∈ args.map (·.2), FragN true k) : FragN true (mkCcXor args (d :: ds) oid) := by
  have hc : CcXorRule (mkCcXor args (d :: ds) oid) := ⟨args, d, ds, oid, rfl, hit, hone⟩
  obtain ⟨ks, hp, e⟩ := mkCcXor_node args d ds oid
  rw [e] at hc ⊢
  refine (fragN_node ..).2 ⟨Or.inr (Or.inr (Or.inr (Or.inr (Or.inr (Or.inr (Or.inr (Or.inr (Or.inr ⟨rfl, hc⟩)))))))),
    fun k hk => List.forall_mem_cons.2 ⟨?_, List.forall_mem_singleton.2 ?_⟩ k (hp.mem_iff.1 hk)⟩
  · exact fragN_mkCcAny_items _ d ds _ (by simpa only [AltArgs, map_false_snd, mem_sortById, mem_orderArgs] using hit)
      (oneDefault_sorted args d.1 hone) (by simpa only [map_false_snd, mem_sortById, mem_orderArgs] using hargs)
  · exact fragN_mkAtMost _ _ _ fun k h => hargs k (mem_orderArgs.1 h)

theorem fragN_mkAll (args : List (Bool × P)) (oid) (cls) (hcls : cls = .all ∨ (cls = .stingy ∧ cfg = true))
    (hd : distinctCount args = args.length) (hrt : DistinctRT cfg (sortById (orderArgs args)))
    (hk : ∀ k ∈ args.map (·.2), FragN cfg k) : FragN cfg (mkAll args oid cls) := by
  have hlen : (distinctCount args : Int) = ((sortById (orderArgs args)).length : Int) := by
    rw [hd, (sortArgs_perm args).length_eq, List.length_map]
  rw [mkAll_eq, fragN_node]
  refine ⟨?_, fun k h => hk k ((sortArgs_perm args).mem_iff.1 h)⟩
  rcases hcls with rfl | ⟨rfl, hcfg⟩
  · exact Or.inr (Or.inr (Or.inr (Or.inl ⟨rfl, hlen, rfl, hrt⟩)))
  · exact Or.inr (Or.inr (Or.inr (Or.inr (Or.inr (Or.inr (Or.inr (Or.inl ⟨rfl, hcfg, hlen, rfl, hrt⟩)))))))

theorem fragN_mkStingy (args : List (Bool × P)) (oid) (hd : distinctCount args = args.length)
    (hrt : DistinctRT true (sortById (orderArgs args))) (hk : ∀ k ∈ args.map (·.2), FragN true k) :
    FragN true (mkAll args oid .stingy) :=
  fragN_mkAll args oid .stingy (Or.inr ⟨rfl, rfl⟩) hd hrt hk

theorem distinctRT_single (k : P) : DistinctRT cfg [k] := by
  intro as h
  have hl : as.length = 1 := by rw [PJ.toAstL_length _ as h]; rfl
  match as, hl with
  | [a], _ => simp [Ast.buildL, distinctCount]

theorem fragN_mkXor (args : List (Bool × P)) (oid) (cls) (hcls : cls = Cls.xor ∨ cls = Cls.exactlyOne)
    (hk : ∀ k ∈ args.map (·.2), FragN cfg k) : FragN cfg (mkXor args oid cls) := by
  have hx : ∀ k ∈ orderArgs args, FragN cfg k := fun k h => hk k (mem_orderArgs.1 h)
  have hp := sortById_perm [mkAtLeast 1 (orderArgs args) none none, mkAtMost 1 (orderArgs args) none]
  rw [mkXor_eq, mkAtLeast_eq, fragN_node]
  refine ⟨Or.inr (Or.inr (Or.inr (Or.inr (Or.inl ⟨hcls, rfl, rfl, ?_⟩)))), fun k hk => List.forall_mem_cons.2
    ⟨fragN_mkAtLeast _ _ _ _ (Or.inl rfl) hx, List.forall_mem_singleton.2 (fragN_mkAtMost _ _ _ hx)⟩ k (hp.mem_iff.1 hk)⟩
  rcases List.perm_pair hp with h | h <;> rw [h]
  · exact ⟨_, _, _, _, _, _, _, Or.inl rfl⟩
  · exact ⟨_, _, _, _, _, _, _, Or.inr rfl⟩

theorem fragN_mkNot (isAtom : Bool) (a : Bool × P) (ha : FragN cfg a.2) : FragN cfg (mkNot isAtom a) := by
  rw [mkNot_eq]
  refine fragN_negate _ ?_
  split
  · refine fragN_mkAll [a] none .all (Or.inl rfl) (by simp [distinctCount]) ?_ (by simpa using ha)
    rw [orderArgs_single, sortById_single]; exact distinctRT_single _
  · exact ha

theorem fragN_mkImply (cAtom : Bool) (c d : Bool × P) (oid) (hc : FragN cfg c.2) (hd : FragN cfg d.2)
    (hcl : cAtom = false → c.2.isLeaf = false) (hid : (d.2.id == (mkNot cAtom c).id) = false) :
    FragN cfg (mkImply cAtom c d oid) := by
  have hnc := fragN_mkNot cAtom c hc
  have hncl : (mkNot cAtom c).isLeaf = false := by
    rw [mkNot_isLeaf]; cases cAtom
    · simpa using hcl rfl
    · rfl
  rw [mkImply_eq]
  generalize mkNot cAtom c = nc at *
  have hp := sortById_perm [nc, d.2]
  exact (fragN_node ..).2 ⟨Or.inr (Or.inr (Or.inr (Or.inr (Or.inr (Or.inl ⟨rfl, rfl, rfl, nc, d.2, hncl, pair_cases hp hid⟩))))),
    fun k hk => List.forall_mem_cons.2 ⟨hnc, List.forall_mem_singleton.2 hd⟩ k (hp.mem_iff.1 hk)⟩

/-- `hid`: the generated ids of the two negated halves differ (they are SHA-256 digests of different texts) -/
theorem fragN_mkXNor (args : List (Bool × P)) (oid) (hk : ∀ k ∈ args.map (·.2), FragN cfg k)
    (hid : ((negate (mkAtLeast 1 (orderArgs args) none none)).id == (negate (mkAtMost 1 (orderArgs args) none)).id) = false) :
    FragN cfg (mkXNor args oid) := by
  have hx : ∀ k ∈ orderArgs args, FragN cfg k := fun k h => hk k (mem_orderArgs.1 h)
  have hA := fragN_negate _ (fragN_mkAtLeast 1 (orderArgs args) none none (Or.inl rfl) hx)
  have hB := fragN_negate _ (fragN_mkAtMost 1 (orderArgs args) none hx)
  have hp := sortById_perm [negate (mkAtLeast 1 (orderArgs args) none none), negate (mkAtMost 1 (orderArgs args) none)]
  rw [mkXNor_eq, fragN_node]
  refine ⟨Or.inr (Or.inr (Or.inr (Or.inr (Or.inr (Or.inr (Or.inl ⟨rfl, rfl, rfl, ?_⟩)))))),
    fun k hk => List.forall_mem_cons.2 ⟨hA, List.forall_mem_singleton.2 hB⟩ k (hp.mem_iff.1 hk)⟩
  -- `cond` looks for the "at most one" half, so `pair_cases` takes that half first; the two halves as nodes are the witnesses
  rw [negate_mkAtMost_none, mkAtLeast_eq] at hp hid ⊢
  rcases pair_cases (hp.trans (.swap ..)) hid with h | h
  · exact ⟨_, _, _, _, _, _, _, _, .refl _, Or.inr h⟩
  · exact ⟨_, _, _, _, _, _, _, _, .refl _, Or.inl h⟩

theorem prio_setCond (p : P) (c) : (setCond p c).mt.prio = p.mt.prio := by cases p <;> rfl

theorem prio_mkAtLeast (v : Int) (ks : List P) (var sgn cls) : (mkAtLeast v ks var sgn cls).mt.prio = none := by
  rw [mkAtLeast_mt]

theorem prio_negate : ∀ p : P, (negate p).mt.prio = none
  | .leaf .. => by rw [negate_leaf]; rfl
  | .node .. => by rw [negate_mt]

theorem prio_mkCcXor (args : List (Bool × P)) (dflt oid) : (mkCcXor args dflt oid).mt.prio = none := by
  rcases dflt with _ | ⟨d, ds⟩
  · rw [mkCcXor_nil, mkXor_eq]; exact prio_mkAtLeast ..
  · obtain ⟨_, _, e⟩ := mkCcXor_node args d ds oid; rw [e]; rfl

/-- no constructor tags what it returns: the only tag the library sets is the −2 on the helper INSIDE a defaulted `cc.Any` -/
theorem build_untagged : ∀ a : Ast, a.build.mt.prio = none
  | .var .. | .str .. => rfl
  | .atLeast .. | .atMost .. | .all .. | .any .. | .stingy .. | .xor .. => prio_mkAtLeast ..
  | .xnor .. => by rw [Ast.build, mkXNor, prio_setCond]; exact prio_mkAtLeast ..
  | .imply .. => by rw [Ast.build, mkImply_eq]; rfl
  | .not a => by rw [Ast.build, mkNot_eq]; exact prio_negate _
  | .ccAny .. => by rw [Ast.build, P.mkCcAny_node]; rfl
  | .ccXor .. => prio_mkCcXor ..

theorem altArgs_built (as : List Ast) (h : ItemsNonneg (Ast.buildL as)) : AltArgs (Ast.buildL as) := by
  intro k hk
  refine ⟨?_, h k hk⟩
  rw [Ast.buildL_snd] at hk
  obtain ⟨a, _, rfl⟩ := List.mem_map.1 hk
  exact build_untagged a

mutual
/-- constructor expressions whose round trip is covered — the plog classes, and for `cfg = true` also `StingyConfigurator` and
    defaulted `cc.Any` / `cc.Xor` (`ItemsNonneg`, `OneDefault`): legal signs; `All` / `StingyConfigurator` over pairwise distinct
    arguments that stay distinct after the round trip (fails on F16f); for `Imply` the consequence's id is not the id of the
    negated condition, for `XNor` the two generated ids of the negated halves differ (digests of different texts — not
    provable without evaluating SHA-256 symbolically, hence hypotheses) -/
def RTExpr (cfg : Bool) : Ast → Prop
  | .var _ _ => True
  | .str _ => True
  | .atLeast _ as _ sgn => (sgn = none ∨ sgn = some 1 ∨ sgn = some (-1)) ∧ RTExprL cfg as
  | .atMost _ as _ => RTExprL cfg as
  | .all as _ => (distinctCount (Ast.buildL as) = as.length ∧ DistinctRT cfg (sortById (orderArgs (Ast.buildL as)))) ∧ RTExprL cfg as
  | .any as _ => RTExprL cfg as
  | .xor as _ _ => RTExprL cfg as
  | .xnor as _ =>
      (((negate (mkAtLeast 1 (orderArgs (Ast.buildL as)) none none)).id ==
        (negate (mkAtMost 1 (orderArgs (Ast.buildL as)) none)).id) = false) ∧ RTExprL cfg as
  | .imply c d _ => ((d.build.id == (mkNot c.isAtom (c.isStr, c.build)).id) = false) ∧ RTExpr cfg c ∧ RTExpr cfg d
  | .not a => RTExpr cfg a
  | .ccAny as dflt _ => (cfg = true ∧ ItemsNonneg (Ast.buildL as) ∧ ∃ d ds, dflt = d :: ds ∧ OneDefault (Ast.buildL as) d.1) ∧ RTExprL cfg as
  | .ccXor as dflt _ => (cfg = true ∧ ItemsNonneg (Ast.buildL as) ∧ ∃ d ds, dflt = d :: ds ∧ OneDefault (Ast.buildL as) d.1) ∧ RTExprL cfg as
  | .stingy as _ => cfg = true ∧ (distinctCount (Ast.buildL as) = as.length ∧ DistinctRT cfg (sortById (orderArgs (Ast.buildL as)))) ∧ RTExprL cfg as
def RTExprL (cfg : Bool) : List Ast → Prop
  | [] => True
  | a :: as => RTExpr cfg a ∧ RTExprL cfg as
end

theorem RTExprL_iff (as : List Ast) : RTExprL cfg as ↔ ∀ a ∈ as, RTExpr cfg a :=
  forall_of_rec (by rw [RTExprL]) (fun _ _ => by rw [RTExprL]) as

theorem fragN_args (as : List Ast) (ih : ∀ a ∈ as, RTExpr cfg a → FragN cfg a.build) (h : RTExprL cfg as) :
    ∀ k ∈ (Ast.buildL as).map (·.2), FragN cfg k :=
  forall_args.2 (Ast.forall_buildL.2 fun a ha => ih a ha ((RTExprL_iff as).1 h a ha))

theorem fragN_build (a : Ast) : RTExpr cfg a → FragN cfg a.build := by
  induction a using Ast.ind with | _ a ih =>
  intro g
  cases a with
  | var | str => simp [Ast.build, FragN]
  | atLeast v as oid sgn =>
      obtain ⟨hs, hl⟩ := g
      exact fragN_mkAtLeast _ _ _ _ hs fun k h => fragN_args as ih hl k (mem_orderArgs.1 h)
  | atMost v as oid =>
      exact fragN_mkAtMost _ _ _ fun k h => fragN_args as ih g k (mem_orderArgs.1 h)
  | all as oid =>
      obtain ⟨⟨hd, hrt⟩, hl⟩ := g
      exact fragN_mkAll _ _ _ (Or.inl rfl) (by rw [hd, Ast.buildL_length]) hrt (fragN_args as ih hl)
  | any as oid => exact fragN_mkAny _ _ (fragN_args as ih g)
  | xor as oid e => exact fragN_mkXor _ _ _ (by cases e <;> simp) (fragN_args as ih g)
  | xnor as oid => exact fragN_mkXNor _ _ (fragN_args as ih g.2) g.1
  | imply c d oid =>
      obtain ⟨hid, hc, hd⟩ := g
      exact fragN_mkImply _ _ _ _ (ih c (by simp [Ast.args]) hc) (ih d (by simp [Ast.args]) hd)
        (fun h => by rw [Ast.build_isLeaf, h]) hid
  | not a => exact fragN_mkNot _ _ (ih a (by simp [Ast.args]) g)
  | ccAny as dflt oid =>
      obtain ⟨⟨rfl, hit, d, ds, rfl, hone⟩, hl⟩ := g
      exact fragN_mkCcAny_items _ d ds oid (altArgs_built as hit) hone (fragN_args as ih hl)
  | ccXor as dflt oid =>
      obtain ⟨⟨rfl, hit, d, ds, rfl, hone⟩, hl⟩ := g
      exact fragN_mkCcXor_items _ d ds oid (altArgs_built as hit) hone (fragN_args as ih hl)
  | stingy as oid =>
      obtain ⟨rfl, ⟨hd, hrt⟩, hl⟩ := g
      exact fragN_mkStingy _ _ (by rw [hd, Ast.buildL_length]) hrt (fragN_args as ih hl)

theorem build_fragN : ∀ a, RTExpr cfg a → FragN cfg a.build ∧ (a.isAtom = false → a.build.isLeaf = false) :=
  fun a h => ⟨fragN_build a h, fun ha => by rw [Ast.build_isLeaf, ha]⟩

theorem buildL_fragN : ∀ as, RTExprL cfg as → ∀ k ∈ (Ast.buildL as).map (·.2), FragN cfg k :=
  fun as => fragN_args as (fun a _ => fragN_build a)

/-- the round trip of what the constructors build: for every constructor expression under `RTExpr cfg`,
    `from_json(to_json(model))` succeeds and evaluates like the model on every assignment that respects the leaf bounds -/
theorem build_roundtrip (a : Ast) (h : RTExpr cfg a) :
    ∃ a', PJ.toAst cfg (toJson a.build) = some a' ∧ ∀ σ, Good σ a.build → evalPt σ a'.build = evalPt σ a.build :=
  fragN_roundtrip a.build (build_fragN a h).1

/-- the round trip of a configurator: `StingyConfigurator(*rules)` under `RTExpr true` is written as a `StingyConfigurator` node,
    read back through the configurator's class map as a `StingyConfigurator` again, and holds on exactly the same in-bounds
    assignments -/
theorem configurator_roundtrip (rules : List Ast) (oid) (h : RTExpr true (.stingy rules oid)) :
    ∃ rs oid', PJ.toAst true (toJson (Ast.stingy rules oid).build) = some (.stingy rs oid') ∧
      ∀ σ, Good σ (Ast.stingy rules oid).build →
        evalPt σ (Ast.stingy rs oid').build = evalPt σ (Ast.stingy rules oid).build := by
  obtain ⟨a', h1, h2⟩ := build_roundtrip _ h
  obtain ⟨rs, oid', rfl⟩ : ∃ rs oid', a' = .stingy rs oid' := by
    simp only [Ast.build, mkAll_eq, toJson, PJ.toAst] at h1
    simp at h1
    obtain ⟨as, _, rfl⟩ := h1
    exact ⟨_, _, rfl⟩
  exact ⟨rs, oid', h1, h2⟩

/-- the witness of F16a: value 0 with an explicit + sign keeps its meaning -/
example :
    let t : P := .node "N" ⟨0,1⟩ 1 0 [.leaf "a" ⟨0,1⟩] { cls := .atLeast }
    Frag cfg t ∧ signJ 1 0 = some 1 ∧ sgnOf 0 (signJ 1 0) = 1 := by
  exact ⟨by simp [Frag, FragL], by decide, by decide⟩

/-- an `Xor`-shaped node and an `All` over leaves are in the fragment -/
example :
    let x : P := .node "X" ⟨0,1⟩ 1 2 [.node "L" ⟨0,1⟩ 1 1 [.leaf "a" ⟨0,1⟩, .leaf "b" ⟨0,1⟩] { cls := .atLeast },
                                      .node "M" ⟨0,1⟩ (-1) (-1) [.leaf "a" ⟨0,1⟩, .leaf "b" ⟨0,1⟩] { cls := .atMost }] { cls := .xor }
    let t : P := .node "T" ⟨0,1⟩ 1 2 [.leaf "c" ⟨0,1⟩, .leaf "d" ⟨0,3⟩] { cls := .all }
    Frag cfg x ∧ Frag cfg t := by
  refine ⟨?_, ?_⟩
  · simp only [Frag, FragL, and_true]
    refine ⟨Or.inr (Or.inr (Or.inr (Or.inr ⟨by simp, by simp, by simp,
      ⟨"L", ⟨0,1⟩, { cls := .atLeast }, "M", ⟨0,1⟩, { cls := .atMost }, _, Or.inl rfl⟩⟩))), ?_, ?_⟩
    · simp
    · simp
  · simp only [Frag, FragL, and_true]
    refine Or.inr (Or.inr (Or.inr (Or.inl ⟨by simp, by simp, by simp, ?_⟩)))
    intro as h
    simp [toJsonL, toJson, leafJ, PJ.toAstL, PJ.toAst] at h
    subst h
    decide

/-- `Imply(Any(a,b), c)` as held: `Any(¬(a+b ≥ 1), c)` with the negated condition at position 0 -/
example :
    let k : P := .node "C" ⟨0,1⟩ (-1) 0 [.leaf "a" ⟨0,1⟩, .leaf "b" ⟨0,1⟩] { cls := .atLeast }
    let t : P := .node "I" ⟨0,1⟩ 1 1 [k, .leaf "c" ⟨0,1⟩] { cls := .imply, cond := 0 }
    FragN cfg t ∧ Good (fun _ => 0) t := by
  refine ⟨?_, by simp [Good, SignOk, SignOks, InB, InBs]⟩
  simp only [FragN, FragNL, and_true]
  refine ⟨Or.inr (Or.inr (Or.inr (Or.inr (Or.inr (Or.inl ⟨by simp, by simp, by simp, ?_⟩))))), by simp⟩
  exact ⟨_, _, rfl, Or.inl ⟨rfl, rfl⟩⟩

/-- a defaulted `cc.Any` as held (default item next to the tagged helper) is read back with its default -/
example :
    let inner : P := .node "H" ⟨0,1⟩ 1 1 [.leaf "b" ⟨0,1⟩, .leaf "c" ⟨0,1⟩] { cls := .any, gen := true, prio := some (-2) }
    let t : P := .node "A" ⟨0,1⟩ 1 1 [.leaf "a" ⟨0,1⟩, inner] { cls := .ccAny, dflt := [("a", ⟨0,1⟩)] }
    PJ.toAst true (toJson t) = some (.ccAny [.var "a" ⟨0,1⟩, .var "b" ⟨0,1⟩, .var "c" ⟨0,1⟩] [("a", ⟨0,1⟩)] (some "A")) := by
  simp [toJson, ccAnyProps, toJsonL, leafJ, idJ, PJ.toAst, PJ.toAstL, P.mt]

theorem negate_id_explicit (i b s v ks) (m : Meta) (hg : m.gen = false) : (negate (.node i b s v ks m)).id = i :=
  C05.negate_keeps_id i b s v ks m hg

example : RTExpr cfg (.imply (.any [.str "a", .str "b"] (some "C")) (.str "c") (some "I")) := by
  simp only [RTExpr, RTExprL, Ast.build, Ast.isAtom, mkNot_eq, mkAny_eq, Bool.false_eq_true, if_false]
  rw [negate_id_explicit _ _ _ _ _ _ rfl]
  decide

example : RTExpr true (.stingy [.xor [.str "a", .str "b"] (some "C") false] (some "S")) := by
  simp only [RTExpr, RTExprL, and_true, true_and, Ast.buildL, orderArgs_single, sortById_single]
  exact ⟨by simp [distinctCount], distinctRT_single _⟩

theorem mkCcXor_id (args : List (Bool × P)) (dflt) (x : String) : (mkCcXor args dflt (some x)).id = x := by
  cases dflt with
  | nil => rw [mkCcXor_nil, mkXor_eq]; exact mkAtLeast_id_some ..
  | cons d ds => obtain ⟨_, _, e⟩ := mkCcXor_node args d ds (some x); rw [e]; rfl

/-- a defaulted choice below an implication below the configurator -/
example : RTExpr true (.stingy [.imply (.any [.str "a", .str "b"] (some "C"))
    (.ccXor [.str "x", .str "y"] [("x", ⟨0, 1⟩)] (some "X")) (some "I")] (some "S")) := by
  simp only [RTExpr, RTExprL, and_true, true_and, Ast.buildL, orderArgs_single, sortById_single]
  refine ⟨⟨by simp [distinctCount], distinctRT_single _⟩, ?_, ?_, ?_⟩
  · simp only [Ast.build, Ast.isAtom, mkNot_eq, mkAny_eq, Bool.false_eq_true, if_false]
    rw [negate_id_explicit _ _ _ _ _ _ rfl, mkCcXor_id]
    decide
  · intro k hk
    simp only [Ast.build, Ast.isStr, List.map_cons, List.map_nil, List.mem_cons, List.not_mem_nil, or_false] at hk
    rcases hk with rfl | rfl <;> simp [isLeaf, P.bnd]
  · exact ⟨("x", ⟨0, 1⟩), [], rfl, by simp [OneDefault, Ast.build, Ast.isStr, isLeaf, P.id]⟩

/-! ## Exact round trip of choices over items, and of configurators made of them

For the everyday configurator `from_json(to_json(m))` builds the very same model (ids pairwise distinct; the generated id of a
helper is not the id of an item — a digest against a user-chosen name, a hypothesis like the two of `RTExpr`).  Everything
else the property asks for is a function of the model: default priorities, the polyhedron, every query.

Every constructor sees its arguments through `sortById (orderArgs args)` (`All` also through their number, `cc.Any` through
lengths and filters of them: all invariant under permutation when ids are distinct), and two id-sorted arrangements of the
same propositions with pairwise distinct ids coincide (`sort_args_congr`): so a constructor call over the arguments read
back builds the node it was written from (`mk*_congr`). -/

theorem sort_args_congr (A A' : List (Bool × P)) (hp : (A'.map (·.2)).Perm (A.map (·.2)))
    (hn : ((A.map (·.2)).map (·.id)).Nodup) : sortById (orderArgs A') = sortById (orderArgs A) :=
  C18.sorted_unique _ _ (((orderArgs_perm A').trans hp).trans (orderArgs_perm A).symm)
    ((((orderArgs_perm A').trans hp).map _).nodup_iff.2 hn)

theorem mkAtLeast_congr (v : Int) (ks ks' : List P) (var sgn cls) (h : sortById ks = sortById ks') :
    mkAtLeast v ks var sgn cls = mkAtLeast v ks' var sgn cls := by
  rw [mkAtLeast_eq, mkAtLeast_eq, h]

theorem mkAny_congr (A A' : List (Bool × P)) (oid cls) (hp : (A'.map (·.2)).Perm (A.map (·.2)))
    (hn : ((A.map (·.2)).map (·.id)).Nodup) : mkAny A' oid cls = mkAny A oid cls :=
  mkAtLeast_congr _ _ _ _ _ _ (sort_args_congr A A' hp hn)

theorem mkXor_congr (A A' : List (Bool × P)) (oid cls) (hp : (A'.map (·.2)).Perm (A.map (·.2)))
    (hn : ((A.map (·.2)).map (·.id)).Nodup) : mkXor A' oid cls = mkXor A oid cls := by
  have h := sort_args_congr A A' hp hn
  rw [mkXor, mkXor, mkAtMost, mkAtMost, mkAtLeast_congr 1 _ _ none none .atLeast h, mkAtLeast_congr (-1) _ _ none (some (-1)) .atMost h]

theorem distinctCount_nodup : ∀ l : List (Bool × P), ((l.map (·.2)).map (·.id)).Nodup → distinctCount l = l.length
  | [], _ => rfl
  | x :: r, hn => by
      obtain ⟨hx, hr⟩ := List.nodup_cons.1 hn
      have hany : r.any (fun y => (x.1 == y.1) && beq x.2 y.2) = false :=
        List.any_eq_false.2 fun y hy hb => hx (List.mem_map.2 ⟨y.2, List.mem_map.2 ⟨y, hy, rfl⟩,
          (C10.beq_id_kids x.2 y.2 (Bool.and_eq_true .. ▸ hb).2).1.symm⟩)
      rw [distinctCount, hany, distinctCount_nodup r hr, if_neg Bool.false_ne_true, List.length_cons, Nat.add_comm]

theorem mkAll_congr (A A' : List (Bool × P)) (oid cls) (hp : (A'.map (·.2)).Perm (A.map (·.2)))
    (hn : ((A.map (·.2)).map (·.id)).Nodup) : mkAll A' oid cls = mkAll A oid cls := by
  rw [mkAll, mkAll, distinctCount_nodup A' ((hp.map _).nodup_iff.2 hn), distinctCount_nodup A hn,
    (by simpa using hp.length_eq : A'.length = A.length)]
  exact mkAtLeast_congr _ _ _ _ _ _ (sort_args_congr A A' hp hn)

theorem filter_perm_snd (g : P → Bool) {A A' : List (Bool × P)} (hp : (A'.map (·.2)).Perm (A.map (·.2))) :
    ((A'.filter (fun x => g x.2)).map (·.2)).Perm ((A.filter (fun x => g x.2)).map (·.2)) := by
  have := hp.filter g
  rwa [List.filter_map, List.filter_map] at this

theorem nodup_filter_ids (g : P → Bool) (A : List (Bool × P)) (hn : ((A.map (·.2)).map (·.id)).Nodup) :
    (((A.filter (fun x => g x.2)).map (·.2)).map (·.id)).Nodup :=
  ((List.filter_sublist.map _).map _).nodup hn

/-- `hfresh`: the helper's generated id is no item's id -/
theorem mkCcAny_congr (A A' : List (Bool × P)) (dflt oid)
    (hp : (A'.map (·.2)).Perm (A.map (·.2))) (hn : ((A.map (·.2)).map (·.id)).Nodup)
    (hfresh : ∀ d1, ∀ k ∈ A.map (·.2), k.id ≠ (mkAny (A.filter (fun x => !(x.2.isLeaf && x.2.id == d1))) none).id) :
    mkCcAny A' dflt oid = mkCcAny A dflt oid := by
  rw [mkCcAny_eq, mkCcAny_eq]
  suffices h : mkAny (ccArgs A' dflt) oid .ccAny = mkAny (ccArgs A dflt) oid .ccAny by rw [h]
  rcases dflt with _ | ⟨⟨d1, d2⟩, ds⟩
  · exact mkAny_congr A A' oid _ hp hn
  · have hlen : A'.length = A.length := by simpa using hp.length_eq
    have hcp := filter_perm_snd (fun k => !(k.isLeaf && k.id == d1)) hp
    have hdp := filter_perm_snd (fun k => k.isLeaf && k.id == d1) hp
    have hcl : (A'.filter (fun x => !(x.2.isLeaf && x.2.id == d1))).length =
        (A.filter (fun x => !(x.2.isLeaf && x.2.id == d1))).length := by simpa using hcp.length_eq
    -- `ccArgs` branches on lengths only (`hlen`, `hcl`): both sides take the same branch
    by_cases h1 : A.length ≤ 1
    · rw [ccArgs, ccArgs, if_pos h1, if_pos (hlen ▸ h1)]; exact mkAny_congr A A' oid _ hp hn
    · by_cases h2 : ((A.filter (fun x => !(x.2.isLeaf && x.2.id == d1))).length == A.length ||
          (A.filter (fun x => !(x.2.isLeaf && x.2.id == d1))).length == 0) = true
      · rw [ccArgs, ccArgs, if_neg h1, if_pos h2, if_neg (hlen ▸ h1), if_pos (hcl ▸ hlen ▸ h2)]
        exact mkAny_congr A A' oid _ hp hn
      · rw [ccArgs_split A d1 d2 ds h1 h2, ccArgs_split A' d1 d2 ds (hlen ▸ h1) (hcl ▸ hlen ▸ h2),
          ccHelper, ccHelper, mkAny_congr _ _ none _ hcp (nodup_filter_ids (fun k => !(k.isLeaf && k.id == d1)) A hn)]
        refine mkAny_congr _ _ oid _ (by simp only [List.map_append]; exact hdp.append_right _) ?_
        simp only [List.map_append, List.map_cons, List.map_nil]
        refine List.nodup_append.2 ⟨nodup_filter_ids (fun k => k.isLeaf && k.id == d1) A hn, by simp, fun a ha b hb => ?_⟩
        obtain ⟨k, hk, rfl⟩ := List.mem_map.1 ha
        obtain ⟨x, hx, rfl⟩ := List.mem_map.1 hk
        rw [List.mem_singleton.1 hb, setPrio_id]
        exact hfresh d1 x.2 (List.mem_map.2 ⟨x, (List.mem_filter.1 hx).1, rfl⟩)

theorem mkCcXor_congr (A A' : List (Bool × P)) (dflt oid)
    (hp : (A'.map (·.2)).Perm (A.map (·.2))) (hn : ((A.map (·.2)).map (·.id)).Nodup) :
    mkCcXor A' dflt oid = mkCcXor A dflt oid := by
  unfold mkCcXor; rw [mkXor_congr A A' oid _ hp hn]

theorem nodup_const_le_one {α β} (f : α → β) (c : β) (l : List α) (hn : (l.map f).Nodup) (hc : ∀ x ∈ l, f x = c) :
    l.length ≤ 1 := by
  rw [List.eq_replicate_iff.2 ⟨List.length_map f, List.forall_mem_map.2 hc⟩] at hn
  exact List.nodup_replicate.1 hn

theorem oneDefault_of_nodup (A : List (Bool × P)) (d : String) (hn : ((A.map (·.2)).map (·.id)).Nodup) : OneDefault A d := by
  have h1 := nodup_filter_ids (fun k => k.isLeaf && k.id == d) A hn
  rw [List.map_map] at h1
  exact nodup_const_le_one _ d _ h1 fun x hx => beq_iff_eq.1 (Bool.and_eq_true .. ▸ (List.mem_filter.1 hx).2).2

theorem ccAny_exact (args : List (Bool × P)) (d : String × Bnd) (ds : List (String × Bnd)) (oid)
    (hx : ∀ k ∈ args.map (·.2), RTX' k ∧ k.mt.prio = none) (hn : ((args.map (·.2)).map (·.id)).Nodup)
    (hfresh : ∀ d1, ∀ k ∈ args.map (·.2), k.id ≠ (mkAny (args.filter (fun x => !(x.2.isLeaf && x.2.id == d1))) none).id) :
    RTX (mkCcAny args (d :: ds) oid) := by
  obtain ⟨a, ha, _, _, as, X, rfl, hX, has⟩ := ccAny_roundtrip_gen args d ds oid
    (fun k hk => (hx k hk).2) (oneDefault_of_nodup args d.1 hn) (fun k hk => rtn_of_rtx' k (hx k hk).1)
  obtain ⟨as', has', hb⟩ := rtx'_list X (fun k hk => (hx k (hX.mem_iff.1 hk)).1)
  cases has.symm.trans has'
  exact ⟨_, ha, mkCcAny_congr args _ (d :: ds) oid (by rw [hb]; exact hX) hn hfresh, rfl⟩

theorem ccXor_exact (args : List (Bool × P)) (d : String × Bnd) (ds : List (String × Bnd)) (oid)
    (hx : ∀ k ∈ args.map (·.2), RTX' k) (hn : ((args.map (·.2)).map (·.id)).Nodup) :
    RTX (mkCcXor args (d :: ds) oid) := by
  obtain ⟨a, ha, _, _, as, rfl, has⟩ := ccXor_roundtrip_gen args d ds oid (fun k hk => rtn_of_rtx' k (hx k hk))
  obtain ⟨as', has', hb⟩ := rtx'_list (sortById (orderArgs args)) fun k h => hx k ((sortArgs_perm args).mem_iff.1 h)
  cases has.symm.trans has'
  exact ⟨_, ha, mkCcXor_congr args _ (d :: ds) oid (by rw [hb]; exact sortArgs_perm args) hn, rfl⟩

/-- for a defaulted `cc.Any` over items `from_json(to_json(rule))` builds the very same rule -/
theorem ccAny_items_exact (args : List (Bool × P)) (d : String × Bnd) (ds : List (String × Bnd)) (oid)
    (hleaf : ∀ k ∈ args.map (·.2), k.isLeaf = true) (hn : ((args.map (·.2)).map (·.id)).Nodup)
    (hfresh : ∀ d1, ∀ k ∈ args.map (·.2), k.id ≠ (mkAny (args.filter (fun x => !(x.2.isLeaf && x.2.id == d1))) none).id) :
    ∃ a, PJ.toAst true (toJson (mkCcAny args (d :: ds) oid)) = some a ∧ a.build = mkCcAny args (d :: ds) oid ∧
      a.isStr = false :=
  ccAny_exact args d ds oid (fun k hk => ⟨rtx'_leaf k (hleaf k hk), leaf_untagged k (hleaf k hk)⟩) hn hfresh

/-- `ccAny_items_exact` for a defaulted `cc.Xor` -/
theorem ccXor_items_exact (args : List (Bool × P)) (d : String × Bnd) (ds : List (String × Bnd)) (oid)
    (hleaf : ∀ k ∈ args.map (·.2), k.isLeaf = true) (hn : ((args.map (·.2)).map (·.id)).Nodup) :
    ∃ a, PJ.toAst true (toJson (mkCcXor args (d :: ds) oid)) = some a ∧ a.build = mkCcXor args (d :: ds) oid ∧
      a.isStr = false :=
  ccXor_exact args d ds oid (fun k hk => rtx'_leaf k (hleaf k hk)) hn

theorem stingy_exact' (rules : List P) (i : String) (hx : ∀ r ∈ rules, RTX' r) (hn : (rules.map (·.id)).Nodup) :
    RTX' (Config.mkStingy rules i) := by
  obtain ⟨as, has, hbs⟩ := rtx'_list (sortById rules) fun r h => hx r (mem_sortById.1 h)
  refine ⟨.stingy as (some i), ?_, ?_⟩
  · rw [Config.mkStingy, mkAll_eq, orderArgs_false]; simp [toJson, idJ, PJ.toAst, has]
  · exact mkAll_congr _ _ _ _ (by rw [hbs, map_false_snd]; exact sortById_perm rules) (by rwa [map_false_snd])

theorem stingy_exact (rules : List P) (i : String) (hx : ∀ r ∈ rules, RTX r) (hn : (rules.map (·.id)).Nodup) :
    ∃ a, PJ.toAst true (toJson (Config.mkStingy rules i)) = some a ∧ a.build = Config.mkStingy rules i :=
  stingy_exact' rules i (fun r hr => rtx'_of_rtx r (hx r hr)) hn

/-- a defaulted choice over items: `cc.Any(*items, default=…)` or `cc.Xor(*items, default=…)`, item ids pairwise distinct,
    the helper's generated id no item's id -/
def ItemChoice (r : P) : Prop :=
  ∃ args d ds oid, (∀ k ∈ args.map (·.2), k.isLeaf = true) ∧ ((args.map (·.2)).map (·.id)).Nodup ∧
    ((r = mkCcAny args (d :: ds) oid ∧
        ∀ d1, ∀ k ∈ args.map (·.2), k.id ≠ (mkAny (args.filter (fun x => !(x.2.isLeaf && x.2.id == d1))) none).id) ∨
     r = mkCcXor args (d :: ds) oid)

theorem itemChoice_rtx (r : P) (h : ItemChoice r) : RTX r := by
  obtain ⟨args, d, ds, oid, hleaf, hn, ⟨rfl, hfresh⟩ | rfl⟩ := h
  · exact ccAny_items_exact args d ds oid hleaf hn hfresh
  · exact ccXor_items_exact args d ds oid hleaf hn

example : ItemChoice (mkCcXor [(true, .leaf "x" ⟨0, 1⟩), (true, .leaf "y" ⟨0, 1⟩)] [("x", ⟨0, 1⟩)] (some "X")) :=
  ⟨_, _, _, _, by simp [isLeaf], by simp [P.id], Or.inr rfl⟩

/-- the helper's generated id is no item's id: it starts with "VAR" and is longer than an item's name -/
example : ItemChoice (mkCcAny [(true, .leaf "a" ⟨0, 1⟩), (true, .leaf "b" ⟨0, 1⟩), (true, .leaf "c" ⟨0, 1⟩)] [("a", ⟨0, 1⟩)] (some "A")) := by
  refine ⟨_, _, _, _, by simp [isLeaf], by simp [P.id], Or.inl ⟨rfl, ?_⟩⟩
  intro d1 k hk h
  have hl : k.id.length = 1 := by
    simp only [List.map_cons, List.map_nil, List.mem_cons, List.not_mem_nil, or_false] at hk
    rcases hk with rfl | rfl | rfl <;> rfl
  rw [h, mkAny_eq] at hl
  simp only [Option.getD_none, genId, P.id, String.length_append] at hl
  have : "VAR".length = 3 := rfl
  omega

/-! ### plain rules over items come back as themselves too

`Any(*items)`, `All(*items)`, `AtMost(v, items)`, `AtLeast(v, items[, sign])` — with an id of the caller's or a generated one;
for a generated id the sign must have been passed the way `to_json` writes it (left out when it can be inferred: otherwise
the generated id hashes another text, which is finding F16f). -/

def PlainItemRule (r : P) : Prop :=
  ∃ (args : List (Bool × P)) (oid : Option String), (∀ k ∈ args.map (·.2), k.isLeaf = true) ∧
    ((args.map (·.2)).map (·.id)).Nodup ∧
    (r = mkAny args oid ∨ r = mkAll args oid ∨ (∃ v, r = mkAtMost v (orderArgs args) (varOf oid)) ∨
     (∃ v sgn, (oid.isSome ∨ sgn = none ∨ ∃ s, sgn = some s ∧ s ≠ defaultSign v) ∧
        r = mkAtLeast v (orderArgs args) (varOf oid) sgn))

theorem plainItemRule_rtx (r : P) (h : PlainItemRule r) : RTX r := by
  obtain ⟨args, oid, hleaf, hn, hr⟩ := h
  obtain ⟨as, has, hb⟩ := rtx'_list (sortById (orderArgs args))
    fun k hk => rtx'_leaf k (hleaf k ((sortArgs_perm args).mem_iff.1 hk))
  have hp : ((Ast.buildL as).map (·.2)).Perm (args.map (·.2)) := by rw [hb]; exact sortArgs_perm args
  have hsort := sort_args_congr args _ hp hn
  rcases hr with rfl | rfl | ⟨v, rfl⟩ | ⟨v, sgn, hs, rfl⟩
  · refine ⟨.any as oid, ?_, mkAny_congr args _ oid _ hp hn, rfl⟩
    rw [mkAny_eq]; simp [toJson, idJ_getD, PJ.toAst, has]
  · refine ⟨.all as oid, ?_, mkAll_congr args _ oid _ hp hn, rfl⟩
    rw [mkAll_eq]; simp [toJson, idJ_getD, PJ.toAst, has]
  · refine ⟨.atMost v as oid, ?_, mkAtLeast_congr _ _ _ _ _ _ hsort, rfl⟩
    rw [mkAtMost_eq]; simp [toJson, idJ_getD, PJ.toAst, has]
  · refine ⟨.atLeast v as oid (signJ (sgnOf v sgn) v), ?_, ?_, rfl⟩
    · rw [mkAtLeast_eq]; simp [toJson, idJ_getD, PJ.toAst, has]
    · rw [Ast.build, mkAtLeast_congr _ _ _ _ _ _ hsort, mkAtLeast_eq, mkAtLeast_eq]
      -- the sign as written: the sign as passed, unless an id was given (then only the sign's value matters)
      rcases hs with ho | rfl | ⟨s', rfl, hs'⟩
      · obtain ⟨x, rfl⟩ := Option.isSome_iff_exists.1 ho
        cases sgn with
        | none => simp [varOf, signJ, sgnOf, defaultSign]
        | some s' =>
            by_cases h' : s' = defaultSign v
            · simp [varOf, signJ, sgnOf, h', defaultSign]
            · simp [varOf, signJ, sgnOf, h']
      · simp [signJ, sgnOf, defaultSign]
      · simp [signJ, sgnOf, hs']

/-! ### `Imply(item, rule)` comes back as itself

The everyday conditional rule: the condition is an item, the consequence an item or a rule that comes back as itself.  The
negated condition is held as `All(item).negate()` with a generated id that depends on the item only; `to_json` writes the
condition as `AtLeast(1, [item])` (the negation of what is held), `from_json` negates that again — the same node. -/

/-- what `Not(item)` builds -/
def notItem (ci : String) (cb : Bnd) : P :=
  .node (genId [.leaf ci cb] 0 (some (-1))) ⟨0, 1⟩ (-1) 0 [.leaf ci cb] { gen := true }

theorem negate_atLeast_item (ci : String) (cb : Bnd) :
    negate (mkAtLeast 1 [.leaf ci cb] none none) = notItem ci cb := by
  rw [mkAtLeast_eq, negate_flat (by simp [comps, isLeaf])]
  simp only [negId, sortById_single]; rfl

theorem mkNot_item (cs : Bool) (ci : String) (cb : Bnd) : mkNot true (cs, .leaf ci cb) = notItem ci cb := by
  rw [mkNot_eq, if_pos rfl, mkAll, orderArgs_single]; exact negate_atLeast_item ci cb

theorem toJsonNeg_notItem (ci : String) (cb : Bnd) :
    toJsonNeg (notItem ci cb) = .node (some "AtLeast") none (some 1) none true [leafJ ci cb] none none none [] := by
  simp [notItem, toJsonNeg, toJsonSorted, toJson, signJ, defaultSign]

theorem imply_item_rtx (cs : Bool) (ci : String) (cb : Bnd) (ds : Bool) (d : P) (oid : Option String)
    (hd : RTX' d) (hid : (d.id == (notItem ci cb).id) = false) :
    RTX (mkImply true (cs, .leaf ci cb) (ds, d) oid) := by
  obtain ⟨a', ha', hb'⟩ := hd
  refine ⟨.imply (.atLeast 1 [.var ci cb] none none) a' oid, ?_, ?_, rfl⟩
  · obtain ⟨hn, hj⟩ := imply_json (pair_cases (sortById_perm [notItem ci cb, d]) hid)
    rw [mkImply_eq, mkNot_item]
    simp only [toJson, hn, hj, toJsonNeg_notItem, idJ_getD]
    simp [PJ.toAst, PJ.toAstOpt, PJ.toAstL, PJ.toAst_leafJ, ha']
  · simp only [Ast.build, Ast.isAtom, Ast.isStr, Ast.buildL, hb', mkImply_eq, mkNot_item, mkNot_false, orderArgs_single,
      varOf, Option.map_none, negate_atLeast_item]

/-- the everyday conditional: an item as condition, an item / a defaulted choice / a plain rule as consequence -/
def ItemImply (r : P) : Prop :=
  ∃ cs ci cb ds d oid, (d.isLeaf = true ∨ ItemChoice d ∨ PlainItemRule d) ∧ (d.id == (notItem ci cb).id) = false ∧
    r = mkImply true (cs, .leaf ci cb) (ds, d) oid

/-- a rule of the everyday configurator -/
def ItemRule (r : P) : Prop := ItemChoice r ∨ PlainItemRule r ∨ ItemImply r

theorem itemRule_rtx (r : P) (h : ItemRule r) : RTX r := by
  rcases h with h | h | ⟨cs, ci, cb, ds, d, oid, hd, hid, rfl⟩
  · exact itemChoice_rtx r h
  · exact plainItemRule_rtx r h
  · refine imply_item_rtx cs ci cb ds d oid ?_ hid
    rcases hd with hl | hc | hp
    · exact rtx'_leaf d hl
    · exact rtx'_of_rtx d (itemChoice_rtx d hc)
    · exact rtx'_of_rtx d (plainItemRule_rtx d hp)

/-- the everyday configurator — defaulted choices, plain rules and `Imply(item, …)` conditionals over items — is read back as
    the very same model, hence with the same default priorities, polyhedron, columns and JSON -/
theorem everyday_configurator_exact (rules : List P) (i : String) (h : ∀ r ∈ rules, ItemRule r)
    (hn : (rules.map (·.id)).Nodup) :
    ∃ a, PJ.toAst true (toJson (Config.mkStingy rules i)) = some a ∧ a.build = Config.mkStingy rules i ∧
      Lex.defaultPrios a.build = Lex.defaultPrios (Config.mkStingy rules i) ∧
      (∀ act, P.encode act a.build = P.encode act (Config.mkStingy rules i)) ∧
      Solve.columns a.build = Solve.columns (Config.mkStingy rules i) ∧
      toJson a.build = toJson (Config.mkStingy rules i) := by
  obtain ⟨a, ha, hb⟩ := stingy_exact rules i (fun r hr => itemRule_rtx r (h r hr)) hn
  exact ⟨a, ha, hb, by rw [hb], fun _ => by rw [hb], by rw [hb], by rw [hb]⟩

/-- `everyday_configurator_exact` for `StingyConfigurator(*rules, id=i)` over defaulted choices over items only -/
theorem items_configurator_exact (rules : List P) (i : String) (h : ∀ r ∈ rules, ItemChoice r)
    (hn : (rules.map (·.id)).Nodup) :
    ∃ a, PJ.toAst true (toJson (Config.mkStingy rules i)) = some a ∧ a.build = Config.mkStingy rules i ∧
      Lex.defaultPrios a.build = Lex.defaultPrios (Config.mkStingy rules i) ∧
      (∀ act, P.encode act a.build = P.encode act (Config.mkStingy rules i)) ∧
      Solve.columns a.build = Solve.columns (Config.mkStingy rules i) ∧
      toJson a.build = toJson (Config.mkStingy rules i) :=
  everyday_configurator_exact rules i (fun r hr => Or.inl (h r hr)) hn

/-- extending a configurator over choices over items by another one with `add` and storing the result as JSON loses nothing -/
theorem added_configurator_exact (i b s v ks m) (r c' : P) (h : Config.add (.node i b s v ks m) r = some c')
    (hk : ∀ k ∈ ks, ItemChoice k) (hr : ItemChoice r) (hn : ((ks ++ [r]).map (·.id)).Nodup) :
    ∃ a, PJ.toAst true (toJson c') = some a ∧ a.build = c' ∧ Lex.defaultPrios a.build = Lex.defaultPrios c' := by
  cases C18.add_eq_mk i b s v ks m r c' h
  obtain ⟨a, ha, hb, hd, _⟩ := items_configurator_exact (ks ++ [r]) i (by simpa [or_imp, forall_and] using ⟨hk, hr⟩) hn
  exact ⟨a, ha, hb, hd⟩

example : PlainItemRule (mkAtMost 2 (orderArgs [(true, .leaf "a" ⟨0, 1⟩), (true, .leaf "b" ⟨0, 1⟩), (true, .leaf "c" ⟨0, 1⟩)]) (varOf none)) :=
  ⟨_, none, by simp [isLeaf], by simp [P.id], Or.inr (Or.inr (Or.inl ⟨2, rfl⟩))⟩
example : PlainItemRule (mkAtLeast 1 (orderArgs [(true, .leaf "a" ⟨0, 1⟩), (true, .leaf "b" ⟨0, 1⟩)]) (varOf (some "N")) (some (-1))) :=
  ⟨_, some "N", by simp [isLeaf], by simp [P.id], Or.inr (Or.inr (Or.inr ⟨1, some (-1), Or.inl rfl, rfl⟩))⟩

example : ItemImply (mkImply true (true, .leaf "a" ⟨0, 1⟩)
    (false, mkCcXor [(true, .leaf "x" ⟨0, 1⟩), (true, .leaf "y" ⟨0, 1⟩)] [("x", ⟨0, 1⟩)] (some "X")) (some "I")) := by
  refine ⟨true, "a", ⟨0, 1⟩, false, _, some "I",
    Or.inr (Or.inl ⟨_, _, _, _, by simp [isLeaf], by simp [P.id], Or.inr rfl⟩), ?_, rfl⟩
  rw [mkCcXor_id]
  simp only [notItem, P.id, genId, beq_eq_false_iff_ne]
  intro h
  have hl := congrArg String.length h
  simp only [String.length_append] at hl
  have h1 : "X".length = 1 := rfl
  have h3 : "VAR".length = 3 := rfl
  omega

/-- Known finding F16g, in the model: a defaulted `cc.Xor` holds, as its "at least one" half, a node whose id is the GENERATED
    id of the half it replaced but which counts as explicit (`gen = false`) — so `id_written_iff` has that id written wherever
    the half is written on its own (the re-negated condition of an Imply, a Not), although the caller never gave it.  The
    model mirrors the code here; the check reports it as KNOWN-FINDING on the real code. -/
theorem f16g_generated_id_counts_as_explicit (args : List (Bool × P)) (d ds oid) :
    ∃ k ∈ (mkCcXor args (d :: ds) oid).kids,
      k.id = genId (sortById (orderArgs args)) 1 none ∧ k.mt.gen = false := by
  refine ⟨_, (mkCcXor_kids args d ds oid).mem_iff.2 (List.mem_cons_self ..), ?_⟩
  rw [P.mkCcAny_node]; exact ⟨rfl, rfl⟩

theorem mkCcAny_isLeaf (args : List (Bool × P)) (dflt oid) : (mkCcAny args dflt oid).isLeaf = false := by
  rw [P.mkCcAny_node]; rfl

/-- a choice below a choice below the configurator -/
example : RTExpr true (.stingy [.ccXor [.ccAny [.str "a", .str "b"] [("a", ⟨0, 1⟩)] (some "G"), .str "c"]
    [("c", ⟨0, 1⟩)] (some "X")] (some "S")) := by
  simp only [RTExpr, RTExprL, and_true, true_and, Ast.buildL, orderArgs_single, sortById_single]
  refine ⟨⟨by simp [distinctCount], distinctRT_single _⟩, ⟨?_, ?_⟩, ?_, ?_⟩
  · intro k hk
    simp only [List.map_cons, List.map_nil, List.mem_cons, List.not_mem_nil, or_false] at hk
    rcases hk with rfl | rfl
    · intro hl; simp [Ast.build, mkCcAny_isLeaf] at hl
    · intro _; simp [Ast.build, P.bnd]
  · refine ⟨("c", ⟨0, 1⟩), [], rfl, ?_⟩
    have hl := mkCcAny_isLeaf (Ast.buildL [Ast.str "a", Ast.str "b"]) [("a", ⟨0, 1⟩)] (some "G")
    simp only [OneDefault, Ast.build, List.filter_cons, hl, Bool.false_and, Bool.false_eq_true, if_false]
    simp [isLeaf, P.id, Ast.isStr]
  · intro k hk
    simp only [Ast.build, Ast.isStr, List.map_cons, List.map_nil, List.mem_cons, List.not_mem_nil, or_false] at hk
    rcases hk with rfl | rfl <;> simp [isLeaf, P.bnd]
  · exact ⟨("a", ⟨0, 1⟩), [], rfl, by simp [OneDefault, Ast.build, Ast.isStr, isLeaf, P.id]⟩

end Puan.C16
