/-
  C08 — reduce() preserves meaning and removes every fixed variable.
-/
import Puan.Lemmas.Reduce
namespace Puan.C08
open Puan P

theorem union_E (I : Interp) : Interp.union E I = I := by
  funext i; simp [Interp.union, E]

theorem reduce_const_kept (I : Interp) (hI : IWf I) (k : P) (hd : DeclWf k) (hr : Rest E I k)
    (hc : (reduce k).bnd.lo = (reduce k).bnd.hi) : (assume I k).bnd = (reduce k).bnd := by
  rw [reduce_bnd] at hc ⊢; exact const_stable E I hI k hd (rest_refines E I k hr) hc

theorem thr_shift (s v c : Int) (L1 L2 : List P) (h1 : sumLo s L1 = sumLo s L2 + c) (h2 : sumHi s L1 = sumHi s L2 + c) :
    thr s (v - c) L2 = thr s v L1 := by
  simp only [thr, h1, h2, ge_iff_le, Int.sub_right_le_iff_le_add]

/-- The reduced model evaluates, on every interpretation of the still-free leaves (values inside their bounds, no
    sub-proposition id named), to the same value as the unreduced model with the fixed variables at their constants. -/
theorem reduce_eval (I : Interp) (hI : IWf I) : ∀ p, SignOk p → DeclWf p → Rest E I p →
    (assume I (reduce p)).bnd = (assume I p).bnd := by
  intro p; induction p with
  | leaf i b => exact fun _ _ _ => rfl
  | node i b s v ks m ih =>
      intro hs hd hr
      have hN := reduce_const_kept I hI _ hd hr
      simp only [SignOk, SignOks_iff, DeclWf, DeclWfL_iff, Rest, RestL_iff] at hs hd hr
      have ih' := fun k hk => ih k hk (hs.2 k hk) (hd.2 k hk) (hr.2 k hk)
      -- `hN` speaks of `reduce (.node …)`: as part of the motive it speaks, in each case, of what that case reduces to
      revert hN
      refine reduce_node_elim (motive := fun r => (r.bnd.lo = r.bnd.hi → _ = r.bnd) → (assume I r).bnd = _)
        i b s v ks m _ _ rfl rfl ?_ ?_ ?_
      · -- fixed by its own bounds
        exact fun hb hN => (hN hb).symm ▸ by simp [assume, bnd, hr.1]
      · -- decided by the constants alone: stays decided under every refinement
        exact fun _ ht hN => (hN ht).symm ▸ by simp [assume, bnd, hr.1]
      · -- constants folded into the threshold
        intro hb ht _
        have hk : ∀ k' ∈ reduceComps ks ++ leavesOf ks, k'.bnd.isConst = true → (assume I k').bnd = k'.bnd := by
          intro k' hk' hc
          obtain ⟨k, hk, rfl⟩ := List.mem_map.1 ((redKids_perm ks).mem_iff.1 hk')
          exact (ih' k hk).trans
            (reduce_const_kept I hI k (hd.2 k hk) (hr.2 k hk) ((isConst_iff _).1 hc))
        have h1 := const_split I s hs.1 _ hk
        have h2 := sums_redKids s ks (assume I)
        have h3 := sums_congr (f := assume I ∘ reduce) s ih'
        rw [assume_node_bnd, assume_node_bnd, hr.1, Option.getD_none, Option.getD_none, if_neg ht, if_neg hb]
        simp only [assumeL_eq_map] at h1 ⊢
        apply thr_shift
        · rw [sumLo_perm s ((sortById_perm _).map _), ← h3.1, ← h2.1, h1.1]
        · rw [sumHi_perm s ((sortById_perm _).map _), ← h3.2, ← h2.2, h1.2]

theorem reduce_evalL (I : Interp) (hI : IWf I) (s : Int) : ∀ ks, SignOks ks → DeclWfL ks → RestL E I ks →
    sumLo s (assumeL I (reduceComps ks ++ leavesOf ks)) = sumLo s (assumeL I ks) ∧
    sumHi s (assumeL I (reduceComps ks ++ leavesOf ks)) = sumHi s (assumeL I ks) := by
  simp only [SignOks_iff, DeclWfL_iff, RestL_iff, assumeL_eq_map]
  intro ks h1 h2 h3
  have a := sums_redKids s ks (assume I)
  have b := sums_congr (f := assume I ∘ reduce) s fun k hk => reduce_eval I hI k (h1 k hk) (h2 k hk) (h3 k hk)
  exact ⟨a.1.trans b.1, a.2.trans b.2⟩

/-- `reduce` keeps the value: on every interpretation of the remaining leaves inside their declared bounds the reduced model
    evaluates to the bounds of the original -/
theorem reduce_preserves_evaluate (I : Interp) (t : P) (hI : IWf I) (hs : SignOk t) (hd : DeclWf t)
    (hr : Rest E I t) : evalB I (reduce t) = evalB I t := reduce_eval I hI t hs hd hr

mutual
def NoConst : P → Prop
  | .leaf _ b => ¬ b.lo = b.hi
  | .node _ b _ _ ks _ => ¬ b.lo = b.hi ∧ NoConstL ks
def NoConstL : List P → Prop
  | [] => True
  | k :: ks => NoConst k ∧ NoConstL ks
end

@[simp]
theorem NoConstL_iff (ks : List P) : NoConstL ks ↔ ∀ k ∈ ks, NoConst k :=
  forall_of_rec Iff.rfl (fun _ _ => Iff.rfl) ks

theorem reduce_noConst_of_not_const (p : P) : (reduce p).bnd.isConst = false → NoConst (reduce p) := by
  induction p with
  | leaf i b => exact fun h hc => by simp [reduce, bnd, (isConst_iff b).2 hc] at h
  | node i b s v ks m ih =>
      refine reduce_node_elim (motive := fun r => r.bnd.isConst = false → NoConst r) i b s v ks m _ _ rfl rfl
        ?_ ?_ ?_
      · exact fun hb h => by simp [bnd, (isConst_iff b).2 hb] at h
      · exact fun _ ht h => by simp [bnd, (isConst_iff _).2 ht] at h
      · intro _ ht _
        simp only [NoConst, NoConstL_iff]
        refine ⟨ht, fun k' hk' => ?_⟩
        obtain ⟨hmem, hnc⟩ := List.mem_filter.1 (mem_sortById.1 hk')
        obtain ⟨k, hk, rfl⟩ := List.mem_map.1 ((redKids_perm ks).mem_iff.1 hmem)
        exact ih k hk (by simpa using hnc)

/-- The reduced model contains no variable or sub-proposition with constant bounds other than, possibly, a single
    constant standing for the whole model. -/
theorem reduce_no_const : ∀ p, p.isLeaf = false →
    ((reduce p).isLeaf = true ∧ (reduce p).bnd.isConst = true) ∨ NoConst (reduce p) := by
  intro p _
  cases h : (reduce p).bnd.isConst with
  | true => exact .inl ⟨reduce_const_isLeaf p h, rfl⟩
  | false => exact .inr (reduce_noConst_of_not_const p h)

theorem reduceComps_no_const : ∀ ks, ∀ k' ∈ reduceComps ks, k'.bnd.isConst = false → NoConst k' := by
  intro ks k' hk' hc
  obtain ⟨k, _, rfl⟩ := List.mem_map.1 (reduceComps_eq ks ▸ hk')
  exact reduce_noConst_of_not_const k hc

/-- non-vacuity: a fixed leaf and a fixed sub-proposition; the hypotheses of `reduce_preserves_evaluate` on the model hold -/
example :
    let t : P := .node "A" ⟨0,1⟩ 1 3 [.leaf "x" ⟨1,1⟩, .leaf "y" ⟨0,1⟩, .node "B" ⟨1,1⟩ 1 1 [.leaf "z" ⟨0,1⟩] {}, .leaf "w" ⟨0,4⟩] {}
    let I : Interp := Interp.ofList [("y", ⟨1,1⟩)]
    SignOk t ∧ DeclWf t ∧ Rest E I t ∧ evalB I t = ⟨1, 1⟩ := by
  refine ⟨by simp [SignOk, SignOks], by simp [DeclWf, DeclWfL, Bnd.wf], ?_, by decide⟩
  simp [Rest, RestL, E, Interp.ofList, List.lookup, Bnd.sub]

end Puan.C08
