/-
  C14 — configurator objectives realise choices over defaults over stinginess.
  The core is generic: an objective whose weights pass the (decidable) dominance certificate
  ranks any two 0/1 configurations lexicographically by level.  The check evaluates the
  certificate on the objective the real code hands to the solver.  Then: the shadow weights of any key list pass the
  certificate (`shadow_objective_dominates`, on C13); a default does not change what `cc.Any` / `cc.Xor` mean
  (`evalPt_mkCcAny`, `evalPt_mkCcXor`); and it reaches the objective through one helper tagged −2 (`ccAny_default_prio`).
-/
import Puan.Model.Lex
import Puan.Props.C13
import Puan.Props.C04
import Puan.Lemmas.List
import Puan.Lemmas.CcAny
import Puan.Lemmas.Tree
namespace Puan.C14
open Puan Lex

/-- objective(x) − objective(y) = Σ w·d -/
def tot (cs : List Col) : Int := (cs.map fun c => c.w * c.d).foldr (· + ·) 0
def totAt (l : Nat) (cs : List Col) : Int := tot (cs.filter fun c => c.lev = l)
def totBelow (l : Nat) (cs : List Col) : Int := tot (cs.filter fun c => c.lev < l)
def totAbove (l : Nat) (cs : List Col) : Int := tot (cs.filter fun c => l < c.lev)
/-- level sum difference S_l(x) − S_l(y) -/
def dAt (l : Nat) (cs : List Col) : Int := ((cs.filter fun c => c.lev = l).map (·.d)).foldr (· + ·) 0

@[simp]
theorem tot_nil : tot [] = 0 := rfl
@[simp]
theorem tot_cons (c : Col) (cs) : tot (c :: cs) = c.w * c.d + tot cs := rfl

/-! The level sums are sums over a filter; as sums of indicator-weighted terms over the same list (`List.sum_filter`)
    they are compared column by column. -/

theorem tot_filter (p : Col → Bool) (cs : List Col) :
    tot (cs.filter p) = (cs.map fun c => if p c then c.w * c.d else 0).sum := List.sum_filter p _ cs
theorem totAt_eq (l : Nat) (cs : List Col) : totAt l cs = (cs.map fun c => if c.lev = l then c.w * c.d else 0).sum := by
  simp only [totAt, tot_filter, decide_eq_true_eq]
theorem totBelow_eq (l : Nat) (cs : List Col) : totBelow l cs = (cs.map fun c => if c.lev < l then c.w * c.d else 0).sum := by
  simp only [totBelow, tot_filter, decide_eq_true_eq]
theorem totAbove_eq (l : Nat) (cs : List Col) : totAbove l cs = (cs.map fun c => if l < c.lev then c.w * c.d else 0).sum := by
  simp only [totAbove, tot_filter, decide_eq_true_eq]
theorem dAt_eq (l : Nat) (cs : List Col) : dAt l cs = (cs.map fun c => if c.lev = l then c.d else 0).sum := by
  simp only [dAt, ← List.sum_eq_foldr, List.sum_filter, decide_eq_true_eq]
theorem wBelow_eq (l : Nat) (cs : List Col) : wBelow l cs = (cs.map fun c => if c.lev < l then c.w else 0).sum := by
  simp only [wBelow, ← List.sum_eq_foldr, List.sum_filter, decide_eq_true_eq]

theorem tot_split (l : Nat) : ∀ cs, tot cs = totAbove l cs + totAt l cs + totBelow l cs := by
  intro cs
  rw [totAbove_eq, totAt_eq, totBelow_eq, ← List.sum_map_add, ← List.sum_map_add]
  refine congrArg List.sum (List.map_congr_left fun c _ => ?_)
  rcases Nat.lt_trichotomy c.lev l with h | h | h
  · rw [if_neg (by omega), if_neg (by omega), if_pos h]; omega
  · rw [if_neg (by omega), if_pos h, if_neg (by omega)]; omega
  · rw [if_pos h, if_neg (by omega), if_neg (by omega)]; omega

theorem below_bound (l : Nat) : ∀ cs, (∀ c ∈ cs, 0 ≤ c.w ∧ -1 ≤ c.d ∧ c.d ≤ 1) →
    -wBelow l cs ≤ totBelow l cs ∧ totBelow l cs ≤ wBelow l cs := by
  intro cs h
  have hc : ∀ c ∈ cs, c.w * -1 ≤ c.w * c.d ∧ c.w * c.d ≤ c.w * 1 := fun c hc =>
    ⟨Int.mul_le_mul_of_nonneg_left (h c hc).2.1 (h c hc).1, Int.mul_le_mul_of_nonneg_left (h c hc).2.2 (h c hc).1⟩
  have hlo := List.sum_map_le (l := cs) (f := fun c => -1 * if c.lev < l then c.w else 0)
    (g := fun c => if c.lev < l then c.w * c.d else 0) fun c hc' => by have := hc c hc'; split <;> omega
  have hhi := List.sum_map_le (l := cs) (f := fun c => if c.lev < l then c.w * c.d else 0)
    (g := fun c => if c.lev < l then c.w else 0) fun c hc' => by have := hc c hc'; split <;> omega
  rw [List.sum_map_mul_left] at hlo
  rw [totBelow_eq, wBelow_eq]
  omega

theorem at_level (l : Nat) (W : Int) : ∀ cs, (∀ c ∈ cs, c.lev = l → c.w = W) → totAt l cs = W * dAt l cs := by
  intro cs h
  rw [totAt_eq, dAt_eq, ← List.sum_map_mul_left]
  refine congrArg List.sum (List.map_congr_left fun c hc => ?_)
  split
  · rename_i hl; rw [h c hc hl]
  · exact (Int.mul_zero W).symm

/-- a level whose common weight `W` exceeds the weights below it together decides the sign of the difference, when the columns
    above contribute nothing -/
theorem lex_of_dominance (l : Nat) (W : Int) (cs : List Col)
    (hrange : ∀ c ∈ cs, 0 ≤ c.w ∧ -1 ≤ c.d ∧ c.d ≤ 1)
    (heq : ∀ c ∈ cs, c.lev = l → c.w = W)
    (habove : totAbove l cs = 0)
    (hdom : wBelow l cs < W) :
    (0 < dAt l cs → 0 < tot cs) ∧ (dAt l cs < 0 → tot cs < 0) := by
  have hs := tot_split l cs
  have hb := below_bound l cs hrange
  rw [habove, at_level l W cs heq] at hs
  have hW : 0 ≤ W := by omega
  constructor <;> intro hd
  · have := Int.mul_le_mul_of_nonneg_left (show 1 ≤ dAt l cs by omega) hW
    rw [Int.mul_one] at this; omega
  · have := Int.mul_le_mul_of_nonneg_left (show dAt l cs ≤ -1 by omega) hW
    rw [Int.mul_neg, Int.mul_one] at this; omega

theorem dominates_iff (cs : List Col) : dominates cs = true ↔
    ∀ c ∈ cs, 0 ≤ c.w ∧ wBelow c.lev cs < c.w ∧ ∀ c' ∈ cs, c'.lev = c.lev → c'.w = c.w := by
  simp only [dominates, List.all_eq_true, Bool.and_eq_true, decide_eq_true_eq, Bool.or_eq_true, bne_iff_ne, ne_eq,
    beq_iff_eq, ← Decidable.imp_iff_not_or, and_assoc]

theorem dominates_spec (cs : List Col) (h : dominates cs = true) :
    ∀ c ∈ cs, 0 ≤ c.w ∧ wBelow c.lev cs < c.w ∧ ∀ c' ∈ cs, c'.lev = c.lev → c'.w = c.w :=
  (dominates_iff cs).1 h

/-- an objective that passes the certificate ranks two 0/1 configurations by their level sums at `l`, when the columns above `l`
    contribute nothing to the difference -/
theorem lex_of_cert (cs : List Col) (hcert : dominates cs = true) (hd : ∀ c ∈ cs, -1 ≤ c.d ∧ c.d ≤ 1)
    (l : Nat) (hl : ∃ c ∈ cs, c.lev = l) (habove : totAbove l cs = 0) :
    (0 < dAt l cs → 0 < tot cs) ∧ (dAt l cs < 0 → tot cs < 0) := by
  obtain ⟨c0, hc0, hlev⟩ := hl
  have hs := dominates_spec cs hcert
  apply lex_of_dominance l c0.w cs
  · intro c hc; exact ⟨(hs c hc).1, hd c hc⟩
  · intro c hc hcl; exact (hs c0 hc0).2.2 c hc (by rw [hcl, hlev])
  · exact habove
  · rw [← hlev]; exact (hs c0 hc0).2.1

theorem tot_filter_all (L : Nat) (cs : List Col) (h : ∀ c ∈ cs, c.lev < L) : tot cs = totBelow L cs := by
  rw [totBelow, List.filter_eq_self.2 fun c hc => decide_eq_true (h c hc)]

theorem totBelow_succ (l : Nat) (cs : List Col) : totBelow (l + 1) cs = totBelow l cs + totAt l cs := by
  rw [totBelow_eq, totBelow_eq, totAt_eq, ← List.sum_map_add]
  refine congrArg List.sum (List.map_congr_left fun c _ => ?_)
  rcases Nat.lt_trichotomy c.lev l with h | h | h
  · rw [if_pos (by omega), if_pos h, if_neg (by omega)]; omega
  · rw [if_pos (by omega), if_neg (by omega), if_pos h]; omega
  · rw [if_neg (by omega), if_neg (by omega), if_neg (by omega)]; omega

/-- as `equal_of_no_difference`, from what it really needs: equal weights inside a level -/
theorem tot_zero_of_levels (cs : List Col) (hs : ∀ c ∈ cs, ∀ c' ∈ cs, c'.lev = c.lev → c'.w = c.w)
    (hall : ∀ l, dAt l cs = 0) : tot cs = 0 := by
  have hzero : ∀ l, totAt l cs = 0 := fun l => by
    cases hf : cs.filter (fun c => c.lev = l) with
    | nil => rw [totAt, hf]; rfl
    | cons c0 r =>
        have ⟨hc0, hl0⟩ := List.mem_filter.1 (hf ▸ List.mem_cons_self : c0 ∈ cs.filter _)
        rw [at_level l c0.w cs fun c hc hcl => hs c0 hc0 c hc (hcl.trans (of_decide_eq_true hl0).symm), hall l, Int.mul_zero]
  have hbelow : ∀ L, totBelow L cs = 0 := fun L => by
    induction L with
    | zero => rw [totBelow, List.filter_eq_nil_iff.2 fun c _ => by simp]; rfl
    | succ n ih => rw [totBelow_succ, ih, hzero n]; rfl
  -- all levels are below some bound
  rw [tot_filter_all _ cs fun c hc => Nat.lt_succ_of_le (List.le_max?_getD_of_mem (k := 0) (List.mem_map_of_mem hc)),
    hbelow]

/-- If no level sum differs, the two configurations have the same objective value. -/
theorem equal_of_no_difference (cs : List Col) (hcert : dominates cs = true)
    (hall : ∀ l, dAt l cs = 0) : tot cs = 0 :=
  tot_zero_of_levels cs (fun c hc c' hc' => (dominates_spec cs hcert c hc).2.2 c' hc') hall

theorem dAt_filter_above (l l' : Nat) (cs : List Col) :
    dAt l' (cs.filter fun c => l < c.lev) = if l < l' then dAt l' cs else 0 := by
  rw [dAt_eq, List.sum_filter]
  by_cases h : l < l'
  · rw [if_pos h, dAt_eq]
    refine congrArg List.sum (List.map_congr_left fun c _ => ?_)
    by_cases e : c.lev = l'
    · rw [if_pos e, if_pos (decide_eq_true (e ▸ h))]
    · rw [if_neg e, ite_self]
  · rw [if_neg h]
    refine List.sum_map_zero fun c _ => ?_
    by_cases e : c.lev = l'
    · rw [if_neg (by rw [decide_eq_true_eq]; omega)]
    · rw [if_neg e, ite_self]

theorem totAbove_zero_of_levels (cs : List Col) (hcert : dominates cs = true) (l : Nat)
    (hhigher : ∀ l', l < l' → dAt l' cs = 0) : totAbove l cs = 0 := by
  have hs := dominates_spec cs hcert
  apply tot_zero_of_levels
  · intro c hc c' hc' hl
    exact (hs c (List.mem_filter.1 hc).1).2.2 c' (List.mem_filter.1 hc').1 hl
  · intro l'
    rw [dAt_filter_above]
    split
    · rename_i hl; exact hhigher l' hl
    · rfl

/-- the lexicographic ranking: two 0/1 configurations whose level sums agree above `l` are ranked by their level sums at `l` -/
theorem lex_by_level_sums (cs : List Col) (hcert : dominates cs = true) (hd : ∀ c ∈ cs, -1 ≤ c.d ∧ c.d ≤ 1)
    (l : Nat) (hl : ∃ c ∈ cs, c.lev = l) (hhigher : ∀ l', l < l' → dAt l' cs = 0) :
    (0 < dAt l cs → 0 < tot cs) ∧ (dAt l cs < 0 → tot cs < 0) :=
  lex_of_cert cs hcert hd l hl (totAbove_zero_of_levels cs hcert l hhigher)

/-- The property's "hence": a configuration `x` that is optimal against `y` (objective(x) − objective(y) = `tot cs` ≥ 0) is at
    least as good as `y` at the highest level where their level sums differ.  With the levels of `level_order`: on the user's
    priorities first; those tied, it has no more non-default helpers on than `y`; those tied too, it selects no more columns. -/
theorem optimal_lex_maximal (cs : List Col) (hcert : dominates cs = true) (hd : ∀ c ∈ cs, -1 ≤ c.d ∧ c.d ≤ 1)
    (hopt : 0 ≤ tot cs) (l : Nat) (hl : ∃ c ∈ cs, c.lev = l) (hhigher : ∀ l', l < l' → dAt l' cs = 0) :
    0 ≤ dAt l cs := by
  have := (lex_by_level_sums cs hcert hd l hl hhigher).2
  omega

/-- "a feasible prioritised item is selected": if `c0` alone carries the highest level (the user's top priority), a configuration
    optimal against `y` has `c0.d = sgn·(x − y) ≥ 0`: selected if `y` selects it (positive priority), not if `y` avoids it -/
theorem top_priority_followed (cs : List Col) (hcert : dominates cs = true) (hd : ∀ c ∈ cs, -1 ≤ c.d ∧ c.d ≤ 1)
    (hopt : 0 ≤ tot cs) (c0 : Col) (hc0 : c0 ∈ cs) (hmax : ∀ c ∈ cs, c.lev ≤ c0.lev)
    (huniq : ∀ c ∈ cs, c.lev = c0.lev → c.d = c0.d) : 0 ≤ c0.d := by
  have hhigher : ∀ l', c0.lev < l' → dAt l' cs = 0 := fun l' hl' => by
    rw [dAt_eq]; exact List.sum_map_zero fun c hc => if_neg (by have := hmax c hc; omega)
  have h := optimal_lex_maximal cs hcert hd hopt c0.lev ⟨c0, hc0, rfl⟩ hhigher
  -- the level sum at the top level is (number of columns there) · c0.d, and c0 is there
  have hc0' : c0 ∈ cs.filter fun c => c.lev = c0.lev := List.mem_filter.2 ⟨hc0, decide_eq_true rfl⟩
  rw [dAt, ← List.sum_eq_foldr, List.map_eq_replicate_iff.2 fun c hc => huniq c (List.mem_filter.1 hc).1
    (of_decide_eq_true (List.mem_filter.1 hc).2), List.sum_replicate_int] at h
  exact Int.nonneg_of_mul_nonneg_right h (Int.ofNat_lt.2 (List.length_pos_of_mem hc0'))

/-! ### shadow weights pass the certificate — for every list of keys

  `ks` is an arbitrary key list, one key (row, magnitude) per column, with the weights `weightOf (table ks) k` that C13's key
  form of `shadow` gives them.  No theorem relates `ks` to `Lex.objective` or to the rows [default priorities, user priorities]
  that `_vectors_from_prios` shadow-compresses: that end is left to the check. -/

section configurator
open Prio C13

/-- a column of the objective for two 0/1 configurations; `z.2` is their signed difference at that column -/
def colOf (ks : List Key) (z : Key × Int) : Col := ⟨levOf ks z.1, weightOf (table ks) z.1, z.2⟩

theorem wBelow_cols (ks : List Key) (k : Key) (hk : k ∈ ks) (zs : List (Key × Int)) (h : ∀ z ∈ zs, z.1 ∈ ks) :
    wBelow (levOf ks k) (zs.map (colOf ks)) = keySumBelow (weightOf (table ks)) k (zs.map (·.1)) := by
  simp only [wBelow_eq, keySumBelow_eq, List.map_map]
  exact congrArg List.sum (List.map_congr_left fun z hz => by
    simp only [Function.comp, colOf, levOf_lt_iff ks z.1 k (h z hz) hk])

/-- the shadow weights of any key list pass the certificate (in a configurator's objective every column has a key, since
    default priorities are never 0) -/
theorem shadow_objective_dominates (ks : List Key) (ds : List Int) (hlen : ks.length ≤ ds.length) :
    dominates ((List.zip ks ds).map (colOf ks)) = true := by
  have hmem : ∀ z ∈ List.zip ks ds, z.1 ∈ ks := fun z hz => (List.of_mem_zip hz).1
  refine (dominates_iff _).2 fun c hc => ?_
  obtain ⟨z, hz, rfl⟩ := List.mem_map.1 hc
  have hk := hmem z hz
  have hdom := weight_dominates ks z.1 hk
  have hwb := wBelow_cols ks z.1 hk (List.zip ks ds) hmem
  rw [List.map_fst_zip hlen] at hwb
  refine ⟨?_, ?_, fun c' hc' hl => ?_⟩
  · have := (weightOf_spec ks z.1 hk).2  -- a weight is at least 1
    simp only [colOf]; omega
  · simp only [colOf] at hwb ⊢; omega    -- and above the sum of what lies below (`weight_dominates`)
  · obtain ⟨z', hz', rfl⟩ := List.mem_map.1 hc'
    exact congrArg (weightOf (table ks)) (levOf_inj ks z'.1 z.1 (hmem z' hz') hk hl)

/-- "choices over defaults over stinginess", for every key list: `lex_of_cert` under the shadow weights of the columns' keys
    (`ds` = the signed differences of the two configurations) -/
theorem configurator_objective_lex (ks : List Key) (ds : List Int) (hlen : ks.length ≤ ds.length)
    (hd : ∀ d ∈ ds, -1 ≤ d ∧ d ≤ 1) (l : Nat)
    (hl : ∃ c ∈ (List.zip ks ds).map (colOf ks), c.lev = l)
    (habove : totAbove l ((List.zip ks ds).map (colOf ks)) = 0) :
    (0 < dAt l ((List.zip ks ds).map (colOf ks)) → 0 < tot ((List.zip ks ds).map (colOf ks))) ∧
    (dAt l ((List.zip ks ds).map (colOf ks)) < 0 → tot ((List.zip ks ds).map (colOf ks)) < 0) := by
  apply lex_of_cert _ (shadow_objective_dominates ks ds hlen) _ l hl habove
  intro c hc
  obtain ⟨z, hz, rfl⟩ := List.mem_map.1 hc
  exact hd z.2 (List.of_mem_zip hz).2

/-- For the rows [default priorities, user priorities] this is the property's order: a user priority (row 1) ranks above every
    default priority (row 0); among defaults the non-default branch (magnitude 2) ranks above every other column (magnitude
    1); among user priorities the larger magnitude ranks higher -/
theorem level_order (ks : List Key) (k' k : Key) (hk' : k' ∈ ks) (hk : k ∈ ks) :
    (k'.row < k.row → levOf ks k' < levOf ks k) ∧ (k'.row = k.row → k'.mag < k.mag → levOf ks k' < levOf ks k) := by
  constructor
  · intro h; exact levOf_lt ks k' k hk' (Or.inl h)
  · intro h1 h2; exact levOf_lt ks k' k hk' (Or.inr ⟨h1, h2⟩)

/-- `optimal_lex_maximal` under shadow weights over any key list, levels as in `level_order`; what the exact solver returns is
    optimal (`tot ≥ 0`) against every feasible `y` -/
theorem configurator_optimal_lex (ks : List Key) (ds : List Int) (hlen : ks.length ≤ ds.length)
    (hd : ∀ d ∈ ds, -1 ≤ d ∧ d ≤ 1) (hopt : 0 ≤ tot ((List.zip ks ds).map (colOf ks))) (l : Nat)
    (hl : ∃ c ∈ (List.zip ks ds).map (colOf ks), c.lev = l)
    (hhigher : ∀ l', l < l' → dAt l' ((List.zip ks ds).map (colOf ks)) = 0) :
    0 ≤ dAt l ((List.zip ks ds).map (colOf ks)) := by
  apply optimal_lex_maximal _ (shadow_objective_dominates ks ds hlen) _ hopt l hl hhigher
  intro c hc
  obtain ⟨z, hz, rfl⟩ := List.mem_map.1 hc
  exact hd z.2 (List.of_mem_zip hz).2

end configurator

/-- user priority (level 3) over the non-default branch (level 2) over plain selections (level 1) -/
example :
    let cs : List Col := [⟨3, 6, 1⟩, ⟨2, 3, -1⟩, ⟨1, 1, -1⟩, ⟨1, 1, -1⟩]
    dominates cs = true ∧ totAbove 3 cs = 0 ∧ dAt 3 cs = 1 ∧ tot cs = 1 := by decide

/-- a tie at the user level 3; at the helper level 2 `y` needs the non-default branch and `x` does not, and `x` pays two more
    plain selections for it: `x` still wins -/
example :
    let cs : List Col := [⟨3, 6, 0⟩, ⟨2, 3, 1⟩, ⟨1, 1, -1⟩, ⟨1, 1, -1⟩]
    dominates cs = true ∧ (∀ l', 2 < l' → dAt l' cs = 0) ∧ dAt 2 cs = 1 ∧ 0 < tot cs := by
  intro cs
  refine ⟨by decide, fun l' h => ?_, by decide, by decide⟩
  rw [dAt_eq]
  refine List.sum_map_zero fun c hc => ?_
  simp only [cs, List.mem_cons, List.not_mem_nil, or_false] at hc
  rcases hc with rfl | rfl | rfl | rfl
  · exact ite_self _
  all_goals exact if_neg (Nat.ne_of_lt (Nat.lt_of_le_of_lt (by decide) h))

/-! ## The default restructuring does not change what a rule means

Whatever the default, `cc.Any` / `cc.Xor` still say "at least one" / "exactly one" of their alternatives (over alternatives
whose values are not negative — items are boolean): the defaults only enter the objective, never the feasible set. -/

section ccsemantics
open P

theorem evalPt_setDflt (σ) (p : P) (d) : evalPt σ (setDflt p d) = evalPt σ p := P.evalPt_setDflt σ p d

theorem sum_filter_split (σ) (f : Bool × P → Bool) (l : List (Bool × P)) :
    sumPt σ (l.map (·.2)) = sumPt σ ((l.filter f).map (·.2)) + sumPt σ ((l.filter (fun x => !f x)).map (·.2)) := by
  simp only [sumPt_eq, List.map_map, List.sum_filter_add_not]

theorem filter_perm_split (f : Bool × P → Bool) (l : List (Bool × P)) :
    ((l.filter f).map (·.2) ++ (l.filter (fun x => !f x)).map (·.2)).Perm (l.map (·.2)) := by
  rw [← List.map_append]; exact (List.filter_append_perm f l).map _

theorem evalPt_mkCcAny (σ) (args : List (Bool × P)) (dflt) (oid) (hnn : ∀ k ∈ args.map (·.2), 0 ≤ evalPt σ k) :
    evalPt σ (mkCcAny args dflt oid) = if sumPt σ (args.map (·.2)) ≥ 1 then 1 else 0 := by
  rw [mkCcAny_eq, evalPt_setDflt, C04.evalPt_mkAny]
  simp only [sumPt_ccArgs σ args dflt hnn]

theorem mkXor_node (args : List (Bool × P)) (oid) (cls) :
    ∃ i b m, mkXor args oid cls = .node i b 1 2
      (sortById [mkAtLeast 1 (orderArgs args) none none, mkAtMost 1 (orderArgs args) none]) m :=
  ⟨_, _, _, (mkXor_eq args oid cls).trans (mkAtLeast_eq ..)⟩

theorem evalPt_mkCcXor (σ) (args : List (Bool × P)) (dflt) (oid) (hnn : ∀ k ∈ args.map (·.2), 0 ≤ evalPt σ k) :
    evalPt σ (mkCcXor args dflt oid) = if sumPt σ (args.map (·.2)) = 1 then 1 else 0 := by
  rcases dflt with _ | ⟨d, ds⟩
  · rw [mkCcXor_nil, C04.evalPt_mkXor]
  · -- the "at least one" half is a `cc.Any` over the same alternatives, the other half is unchanged
    obtain ⟨ks, hk, e⟩ := mkCcXor_node args d ds oid
    have : (sumPt σ (args.map (·.2)) ≥ 1 ∧ sumPt σ (args.map (·.2)) ≤ 1) ↔ sumPt σ (args.map (·.2)) = 1 := by omega
    rw [e, evalPt, sumPt_perm σ hk, sumPt, sumPt,
      evalPt_mkCcAny σ _ _ _ (by simpa only [map_false_snd, mem_sortById, mem_orderArgs] using hnn)]
    simp only [C04.evalPt_mkAtMost, sum_orderArgs, map_false_snd, sumPt_sort, sumPt, Int.one_mul, Int.add_zero,
      ite_add_ge_two, this]

theorem mkCcAny_node_cls (args : List (Bool × P)) (dflt) (oid) :
    ∃ i b s v ks m, mkCcAny args dflt oid = .node i b s v ks m ∧ m.cls = .ccAny :=
  ⟨_, _, _, _, _, _, mkCcAny_node args dflt oid, rfl⟩

/-- the hypothesis of `evalPt_mkCcXor` holds for boolean items under a 0/1 assignment -/
example : ∀ k ∈ ([((false : Bool), P.leaf "a" ⟨0,1⟩), (false, P.leaf "b" ⟨0,1⟩), (false, P.leaf "c" ⟨0,1⟩)]).map (·.2),
    0 ≤ evalPt (fun i => if i = "b" then 1 else 0) k := by
  intro k hk
  simp only [List.map_cons, List.map_nil, List.mem_cons, List.not_mem_nil, or_false] at hk
  rcases hk with rfl | rfl | rfl <;> simp [evalPt]

theorem built_01 (σ) (as : List Ast) (h : C04.OkL σ as) :
    ∀ k ∈ (Ast.buildL as).map (·.2), evalPt σ k = 0 ∨ evalPt σ k = 1 :=
  forall_args.2 ((Ast.forall_buildL (Q := fun k => evalPt σ k = 0 ∨ evalPt σ k = 1)).2 fun a ha =>
    C04.build_01 σ a ((C04.OkL_iff σ as).1 h a ha))

theorem built_nonneg (σ) (as : List Ast) (h : C04.OkL σ as) : ∀ k ∈ (Ast.buildL as).map (·.2), 0 ≤ evalPt σ k :=
  fun k hk => by have := built_01 σ as h k hk; omega

theorem built_sum (σ) (as : List Ast) (h : C04.OkL σ as) : sumPt σ ((Ast.buildL as).map (·.2)) = C04.truthSum σ as :=
  (C04.buildL_inv σ as h).1

/-- `cc.Any(*args, default=…)` over well-formed arguments: true iff at least one argument is true -/
theorem ccAny_truth (σ : String → Int) (as : List Ast) (dflt) (oid) (h : C04.OkL σ as) :
    evalPt σ (Ast.ccAny as dflt oid).build = if C04.truthSum σ as ≥ 1 then 1 else 0 :=
  (evalPt_mkCcAny σ _ _ _ (built_nonneg σ as h)).trans (by rw [built_sum σ as h])

/-- `cc.Xor(*args, default=…)` over well-formed arguments: true iff exactly one argument is true -/
theorem ccXor_truth (σ : String → Int) (as : List Ast) (dflt) (oid) (h : C04.OkL σ as) :
    evalPt σ (Ast.ccXor as dflt oid).build = if C04.truthSum σ as = 1 then 1 else 0 :=
  (evalPt_mkCcXor σ _ _ _ (built_nonneg σ as h)).trans (by rw [built_sum σ as h])

/-- `StingyConfigurator(*rules)` over well-formed, pairwise distinct rules: holds iff every rule holds -/
theorem stingy_truth (σ : String → Int) (as : List Ast) (oid) (h : C04.OkL σ as)
    (hd : distinctCount (Ast.buildL as) = as.length) :
    evalPt σ (Ast.stingy as oid).build = if C04.truthSum σ as = as.length then 1 else 0 := by
  have hl := Ast.buildL_length as
  have hr := sumPt_range σ _ (built_01 σ as h)
  rw [List.length_map] at hr
  exact (C04.evalPt_mkAll σ _ oid .stingy (hd.trans hl.symm) hr).trans (by rw [built_sum σ as h, hl])

end ccsemantics

/-! ## How the defaults reach the objective

`default_prios` reads the `prio` tag of every flattened sub-proposition (−1 where there is none).  The only tag the
constructors set is the −2 on the helper that `cc.Any(…, default=d)` puts around the NON-default alternatives; the helper
holds exactly when some non-default alternative is selected.  So its column — above every plain column and below every user
priority (`level_order`) — makes a configuration that stays with the default beat one that leaves it, user priorities
being equal (`configurator_objective_lex`). -/

section defaults
open P

theorem dedup_nodup (l : List (String × Int)) (h : (l.map (·.1)).Nodup) : Lex.defaultPrios.dedup l = l := by
  fun_induction Lex.defaultPrios.dedup l with
  | case1 => rfl
  | case2 => rfl
  | case3 x y r he ih => simp [he] at h
  | case4 x y r he ih => rw [ih (List.nodup_cons.1 h).2]

theorem dedup_sublist (l : List (String × Int)) : (Lex.defaultPrios.dedup l).Sublist l := by
  fun_induction Lex.defaultPrios.dedup l with
  | case1 => exact .slnil
  | case2 => exact .refl _
  | case3 a b r he ih => exact ih.trans (.cons_cons a (.cons b (.refl r)))
  | case4 a b r he ih => exact .cons_cons a ih

/-- in `default_prios`, whose list is sorted by id, the entry of the smallest id is that of the first sub-proposition carrying
    it: of several equal sub-propositions the first one met decides, as in `flatten()` (stated for the head only) -/
theorem dedup_head : ∀ (a : String × Int) (r : List (String × Int)), ∃ r', Lex.defaultPrios.dedup (a :: r) = a :: r'
  | a, [] => ⟨[], by unfold Lex.defaultPrios.dedup; rfl⟩
  | a, b :: r => by
      unfold Lex.defaultPrios.dedup
      split
      · exact dedup_head a r
      · exact ⟨_, rfl⟩
termination_by _ r => r.length

theorem dedup_cover (l : List (String × Int)) : ∀ x ∈ l, ∃ y ∈ Lex.defaultPrios.dedup l, y.1 = x.1 := by
  fun_induction Lex.defaultPrios.dedup l with
  | case1 => simp
  | case2 a => exact fun x h => ⟨x, h, rfl⟩
  | case3 a b r he ih =>
      intro x hx
      rcases List.mem_cons.1 hx with rfl | hx
      · exact ih x List.mem_cons_self
      · rcases List.mem_cons.1 hx with rfl | hx
        · exact (ih a List.mem_cons_self).imp fun y hy => ⟨hy.1, hy.2.trans he⟩
        · exact ih x (List.mem_cons_of_mem _ hx)
  | case4 a b r he ih =>
      intro x hx
      rcases List.mem_cons.1 hx with rfl | hx
      · exact ⟨x, List.mem_cons_self, rfl⟩
      · exact (ih x hx).imp fun y hy => ⟨List.mem_cons_of_mem _ hy.1, hy.2⟩

/-- `default_prios` with no distinctness assumed.  Which of several sub-propositions with one id supplies the entry is not said
    here (`dedup_head` says it for the head of the list). -/
theorem defaultPrios_sound_cover (t : P) :
    (∀ x ∈ Lex.defaultPrios t, ∃ p ∈ subs t, x = (p.id, p.mt.prio.getD (-1))) ∧
    (∀ p ∈ subs t, ∃ y ∈ Lex.defaultPrios t, y.1 = p.id) := by
  unfold Lex.defaultPrios
  refine ⟨fun x hx => ?_, fun p hp => dedup_cover _ (p.id, _) (List.mem_map_of_mem (mem_sortById.2 hp))⟩
  obtain ⟨p, hp, rfl⟩ := List.mem_map.1 ((dedup_sublist _).subset hx)
  exact ⟨p, mem_sortById.1 hp, rfl⟩

/-- `default_prios` when the flattened ids are pairwise distinct: one entry per sub-proposition, its `prio` tag or −1 -/
theorem defaultPrios_spec (t : P) (hnd : ((sortById (subs t)).map (·.id)).Nodup) (x : String × Int) :
    x ∈ Lex.defaultPrios t ↔ ∃ p ∈ subs t, x = (p.id, p.mt.prio.getD (-1)) := by
  unfold Lex.defaultPrios
  simp only
  rw [dedup_nodup _ (by rw [List.map_map]; exact hnd)]
  constructor
  · intro h
    obtain ⟨p, hp, rfl⟩ := List.mem_map.1 h
    exact ⟨p, mem_sortById.1 hp, rfl⟩
  · rintro ⟨p, hp, rfl⟩
    exact List.mem_map_of_mem (mem_sortById.2 hp)

/-- when the default names some but not all of several alternatives, the `cc.Any` node holds the default alternative(s) and ONE
    further child `H`, tagged −2, which is true exactly when some non-default alternative is -/
theorem ccAny_default_helper (args : List (Bool × P)) (d1 : String) (d2 : Bnd) (ds) (oid)
    (h1 : ¬ args.length ≤ 1)
    (h2 : ¬ (((args.filter (fun x => !(x.2.isLeaf && x.2.id == d1))).length == args.length ||
        (args.filter (fun x => !(x.2.isLeaf && x.2.id == d1))).length == 0) = true)) :
    ∃ H, H ∈ (mkCcAny args ((d1, d2) :: ds) oid).kids ∧ H.mt.prio = some (-2) ∧ H.isLeaf = false ∧
      (∀ σ, evalPt σ H =
        if sumPt σ ((args.filter (fun x => !(x.2.isLeaf && x.2.id == d1))).map (·.2)) ≥ 1 then 1 else 0) ∧
      ∀ k ∈ (mkCcAny args ((d1, d2) :: ds) oid).kids, k = H ∨
        k ∈ (args.filter (fun x => x.2.isLeaf && x.2.id == d1)).map (·.2) := by
  have hmem : ∀ k, k ∈ (mkCcAny args ((d1, d2) :: ds) oid).kids ↔
      k ∈ (args.filter (fun x => x.2.isLeaf && x.2.id == d1)).map (·.2) ∨ k = ccHelper args d1 := fun k => by
    rw [mkCcAny_node, kids, mem_sortById, mem_orderArgs, ccArgs_split args d1 d2 ds h1 h2, List.map_append, List.mem_append]
    simp only [List.map_cons, List.map_nil, List.mem_singleton]
  refine ⟨ccHelper args d1, (hmem _).2 (Or.inr rfl), ?_, ?_, fun σ => evalPt_ccHelper σ args d1, fun k hk => ((hmem k).1 hk).symm⟩
  · rw [ccHelper, mkAny_eq]; rfl  -- the tag `ccHelper` sets
  · rw [ccHelper, mkAny_eq]; rfl

/-- in `default_prios` of a defaulted `cc.Any` (flattened ids pairwise distinct) the helper of `ccAny_default_helper` carries −2:
    the one column through which the default reaches the objective -/
theorem ccAny_default_prio (args : List (Bool × P)) (d1 : String) (d2 : Bnd) (ds) (oid)
    (h1 : ¬ args.length ≤ 1)
    (h2 : ¬ (((args.filter (fun x => !(x.2.isLeaf && x.2.id == d1))).length == args.length ||
        (args.filter (fun x => !(x.2.isLeaf && x.2.id == d1))).length == 0) = true))
    (hnd : ((sortById (subs (mkCcAny args ((d1, d2) :: ds) oid))).map (·.id)).Nodup) :
    ∃ H, (H.id, -2) ∈ Lex.defaultPrios (mkCcAny args ((d1, d2) :: ds) oid) ∧
      ∀ σ, evalPt σ H =
        if sumPt σ ((args.filter (fun x => !(x.2.isLeaf && x.2.id == d1))).map (·.2)) ≥ 1 then 1 else 0 := by
  obtain ⟨H, hk, hp, _, hev, _⟩ := ccAny_default_helper args d1 d2 ds oid h1 h2
  refine ⟨H, (defaultPrios_spec _ hnd _).2 ⟨H, kid_mem_subs hk, ?_⟩, hev⟩
  rw [hp]; rfl

theorem replaced_mem (pred : P → Bool) (f : P → P) : ∀ (ks : List P) (k : P), k ∈ ks → pred k = true →
    (∀ k' ∈ ks, pred k' = true → k' = k) → f k ∈ replaceFirst ks pred f
  | [], _, h, _, _ => nomatch h
  | x :: r, k, h, hp, hu => by
      unfold replaceFirst
      split
      · rename_i hx; exact hu x List.mem_cons_self hx ▸ List.mem_cons_self
      · rename_i hx
        rcases List.mem_cons.1 h with rfl | h
        · exact absurd hp hx
        · exact List.mem_cons_of_mem _ (replaced_mem pred f r k h hp fun k' hk' => hu k' (List.mem_cons_of_mem _ hk'))

/-- a defaulted `cc.Xor` holds a helper as in `ccAny_default_helper` two levels down: its "at least one" half is a `cc.Any` with
    the same default around the same alternatives -/
theorem ccXor_default_helper (args : List (Bool × P)) (d1 : String) (d2 : Bnd) (ds) (oid)
    (h1 : ¬ ((sortById (orderArgs args)).map (fun c => ((false : Bool), c))).length ≤ 1)
    (h2 : ¬ (((((sortById (orderArgs args)).map (fun c => ((false : Bool), c))).filter
          (fun x => !(x.2.isLeaf && x.2.id == d1))).length ==
          ((sortById (orderArgs args)).map (fun c => ((false : Bool), c))).length ||
        (((sortById (orderArgs args)).map (fun c => ((false : Bool), c))).filter
          (fun x => !(x.2.isLeaf && x.2.id == d1))).length == 0) = true)) :
    ∃ A ∈ (mkCcXor args ((d1, d2) :: ds) oid).kids, ∃ H ∈ A.kids, H.mt.prio = some (-2) ∧
      ∀ σ, evalPt σ H = if sumPt σ ((((sortById (orderArgs args)).map (fun c => ((false : Bool), c))).filter
          (fun x => !(x.2.isLeaf && x.2.id == d1))).map (·.2)) ≥ 1 then 1 else 0 := by
  obtain ⟨H, hH, hp, _, hev, _⟩ := ccAny_default_helper ((sortById (orderArgs args)).map (fun c => ((false : Bool), c))) d1 d2 ds
    (some (genId (sortById (orderArgs args)) 1 none)) h1 h2
  exact ⟨_, (mkCcXor_kids args (d1, d2) ds oid).mem_iff.2 List.mem_cons_self, H, hH, hp, hev⟩

/-- `cc.Any(a, b, c, default=a)` meets the hypotheses of `ccAny_default_helper` -/
example :
    let args : List (Bool × P) := [(true, .leaf "a" ⟨0, 1⟩), (true, .leaf "b" ⟨0, 1⟩), (true, .leaf "c" ⟨0, 1⟩)]
    (¬ args.length ≤ 1) ∧
    ¬ (((args.filter (fun x => !(x.2.isLeaf && x.2.id == "a"))).length == args.length ||
        (args.filter (fun x => !(x.2.isLeaf && x.2.id == "a"))).length == 0) = true) := by
  decide

end defaults

end Puan.C14
