/-
  C19 — point classification agrees with A x ≥ b in every input shape.
-/
import Puan.Model.Poly
namespace Puan.C19
open Puan Poly

/-- per point: all rows hold -/
theorem satisfied_spec (p : Poly) (xs : List Int) : satisfied p xs = true ↔ ∀ r ∈ p.rows, rowSat r xs := by
  simp [satisfied, List.all_eq_true]

/-- `separable` is the negation: some row is violated -/
theorem separable_spec (p : Poly) (xs : List Int) : separable p xs = true ↔ ∃ r ∈ p.rows, ¬ rowSat r xs := by
  simp [separable, List.any_eq_true]

theorem separable_eq_not_satisfied (p : Poly) (xs : List Int) : separable p xs = !satisfied p xs := by
  simp only [separable, satisfied, List.not_all_eq_any_not]

/-- per row: some point of the group violates that row -/
theorem ineqSep_spec (p : Poly) (pts : List (List Int)) (i : Nat) (r : PRow) (hr : p.rows[i]? = some r) :
    (ineqSep p pts)[i]? = some (decide (∃ xs ∈ pts, ¬ rowSat r xs)) := by
  simp only [ineqSep, List.getElem?_map, hr, Option.map_some, List.any_eq, Bool.not_eq_eq_eq_not, Bool.not_true,
    decide_eq_false_iff_not]

/-- output shapes follow the input shape (vector → scalar, matrix → vector, stack → matrix; for `ineq_separate_points` one
    entry per row and per group) -/
theorem shapes (p : Poly) (x : List Int) (xs : List (List Int)) (xss : List (List (List Int))) :
    ineqsSatisfied p (.d1 x) = .b (satisfied p x) ∧
    ineqsSatisfied p (.d2 xs) = .v (xs.map (satisfied p)) ∧
    ineqsSatisfied p (.d3 xss) = .m (xss.map (fun g => g.map (satisfied p))) ∧
    separableP p (.d1 x) = .b (!satisfied p x) ∧
    separableP p (.d2 xs) = .v (xs.map (fun y => !satisfied p y)) ∧
    separableP p (.d3 xss) = .m (xss.map (fun g => g.map (fun y => !satisfied p y))) ∧
    ineqSeparatePoints p (.d1 x) = .v (ineqSep p [x]) ∧
    ineqSeparatePoints p (.d2 xs) = .v (ineqSep p xs) ∧
    ineqSeparatePoints p (.d3 xss) = .m (xss.map (ineqSep p)) ∧
    (ineqSep p xs).length = p.rows.length := by
  simp [ineqsSatisfied, separableP, ineqSeparatePoints, separable_eq_not_satisfied, ineqSep]

/-- non-vacuity: a point on a facet, one just outside -/
example :
    let p : Poly := ⟨[⟨0, 3⟩, ⟨0, 3⟩], [⟨2, [1, 1]⟩, ⟨-2, [-1, 0]⟩]⟩
    satisfied p [2, 0] = true ∧ separable p [3, 0] = true ∧ ineqSep p [[2, 0], [3, 0]] = [false, true] := by decide

end Puan.C19
