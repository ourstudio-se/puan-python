/-
  C09 — queries are pure and results are independent of call history.
  In the model this holds by construction (values are immutable); the theorems state it so that the correspondence has
  something precise to transfer.  The assurance comes from there: real objects are driven through random call histories,
  each result compared with the model's pure function of the receiver's current snapshot and with a freshly built identical
  object's, each live object snapshotted after every call.  The calls include the JSON round trip (`Call.jsonRoundtrip cfg`:
  `from_json(to_json(x))` under plog's or the configurator's class map) because on the real code that map is module-level state.
-/
import Puan.Model.Hist
import Puan.Lemmas.Tree
namespace Puan.C09
open Puan Hist

/-- a call never changes any object of the heap -/
theorem step_heap (heap : Heap) (h : Nat) (c : Call) : (step heap h c).1 = heap := rfl

/-- every call of a history returns what it returns on the objects as they were built, whatever was called before -/
theorem run_history_free : ∀ (heap : Heap) (calls : List (Nat × Call)),
    run heap calls = calls.map (fun hc => (heap[hc.1]?).map (out · hc.2)) :=
  fun _ => map_of_rec rfl fun _ _ => rfl

/-- the same call after any history equals the call on a freshly built object -/
theorem same_as_fresh (heap : Heap) (before : List (Nat × Call)) (h : Nat) (c : Call) (t : P)
    (ht : heap[h]? = some t) :
    (run heap (before ++ [(h, c)])).getLast? = some (some (out t c)) := by
  rw [run_history_free]
  simp [ht]

/-- the known impurity (F-C09a) touches only the receiver -/
theorem leaky_others (heap : Heap) (h j : Nat) (c : Call) (hj : j ≠ h) :
    (stepLeaky heap h c).1[j]? = heap[j]? := by
  unfold stepLeaky
  cases hh : heap[h]? with
  | none => rfl
  | some t => simp [Ne.symm hj]

/-- calls other than assume / evaluate / evaluate_propositions do not touch the receiver either -/
theorem leaky_pure_calls (heap : Heap) (h : Nat) (c : Call)
    (hc : match c with | .evaluate _ => False | .evalProps _ => False | .assume _ => False | _ => True) :
    (stepLeaky heap h c).1 = heap := by
  unfold stepLeaky
  cases hh : heap[h]? with
  | none => rfl
  | some t =>
      obtain ⟨hlt, rfl⟩ := List.getElem?_eq_some_iff.1 hh
      have : leakOf heap[h] c = heap[h] := by cases c <;> first | exact hc.elim | rfl
      simp only [this, List.set_getElem_self]

theorem leakL_eq_map (I : Interp) : ∀ ks, leakL I ks = ks.map (leak I) := map_of_rec rfl fun _ _ => rfl

/-- a dictionary naming no compound id of the receiver leaks nothing -/
theorem leak_none (I : Interp) : ∀ t : P, (∀ n ∈ P.subs t, n.isLeaf = false → I n.id = none) → leak I t = t := by
  intro t
  induction t with
  | leaf i b => intro _; rfl
  | node i b s v ks m ih =>
      intro h
      have hi : I i = none := h _ List.mem_cons_self rfl
      have hk : ks.map (leak I) = ks := (List.map_congr_left fun k hk =>
        ih k hk fun n hn => h n (List.mem_cons_of_mem _ (P.mem_subsL.2 ⟨k, hk, hn⟩))).trans (List.map_id _)
      simp [leak, hi, leakL_eq_map, hk]

theorem leakL_none (I : Interp) : ∀ ks : List P, (∀ n ∈ P.subsL ks, n.isLeaf = false → I n.id = none) → leakL I ks = ks :=
  fun ks h => (leakL_eq_map I ks).trans ((List.map_congr_left fun k hk =>
    leak_none I k fun n hn => h n (P.mem_subsL.2 ⟨k, hk, hn⟩)).trans (List.map_id _))

/-- witness of finding F-C09a in the model: naming compound id "B" leaks -/
example :
    let t : P := .node "T" ⟨0,1⟩ 1 2 [.node "B" ⟨0,1⟩ 1 1 [.leaf "x" ⟨0,1⟩, .leaf "y" ⟨0,1⟩] {}, .leaf "z" ⟨0,1⟩] {}
    let I : Interp := Interp.ofList [("B", ⟨1,1⟩), ("z", ⟨1,1⟩)]
    (leak I t).kids.map (·.bnd) = [⟨1,1⟩, ⟨0,1⟩] ∧ P.evalB (Interp.ofList [("x", ⟨0,0⟩), ("y", ⟨0,0⟩), ("z", ⟨1,1⟩)]) (leak I t) = ⟨1,1⟩ := by
  decide

end Puan.C09
