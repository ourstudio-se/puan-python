/-
  C20 — id/position bridges are faithful.
-/
import Puan.Model.Bridge
namespace Puan.C20
open Puan Bridge

/-- Building a vector from an id→value dictionary puts each given value at the column of the variable with that id and
    fills the rest with the declared default; unknown ids are ignored (they are never looked up). -/
theorem construct_get (vars : List (String × Bnd)) (dict : List (String × Int)) (d : Dflt) (j : Nat) :
    (construct vars dict d)[j]? = (vars[j]?).map (entry dict d) := by
  simp [construct, List.getElem?_map]

/-- a given value wins; otherwise the declared default (callable result, lower bound, or NaN) -/
theorem entry_spec (dict : List (String × Int)) (d : Dflt) (i : String) (b : Bnd) :
    (∀ x, dict.lookup i = some x → entry dict d (i, b) = some x) ∧
    (dict.lookup i = none → entry dict d (i, b) = fill d b) := by
  constructor
  · intro x h; simp [entry, h]
  · intro h; simp [entry, h]

theorem construct_length (vars dict d) : (construct vars dict d).length = vars.length := by
  simp [construct]

/-- boolean list conversion marks exactly the listed ids -/
theorem fromListBool_get (lst ctx : List String) (j : Nat) (x : String) (h : ctx[j]? = some x) :
    (fromListBool lst ctx)[j]? = some (if x ∈ lst then 1 else 0) := by
  simp [fromListBool, List.getElem?_map, h]

/-- integer list conversion marks the listed ids with their 1-based first position -/
theorem fromListInt_get (lst ctx : List String) (j : Nat) (x : String) (h : ctx[j]? = some x) :
    (fromListInt lst ctx)[j]? = some (if x ∈ lst then 1 + (lst.idxOf x : Int) else 0) := by
  simp [fromListInt, List.getElem?_map, h]

theorem idxOf_first : ∀ (lst : List String) (x : String), x ∈ lst →
    lst[lst.idxOf x]? = some x ∧ ∀ k : Nat, k < lst.idxOf x → lst[k]? ≠ some x := by
  intro lst x h
  have hlt := List.idxOf_lt_length_of_mem h
  refine ⟨by rw [List.getElem?_eq_getElem hlt, List.getElem_idxOf hlt], fun k hk e => ?_⟩
  obtain ⟨_, e'⟩ := List.getElem?_eq_some_iff.1 e
  simpa [e'] using List.not_of_lt_findIdx (p := (· == x)) hk

/-- `to_list` returns exactly the variables at the 1-entries -/
theorem toList_mem : ∀ (vec : List Int) (vars : List String) (x : String),
    x ∈ toList vec vars ↔ ∃ j : Nat, vec[j]? = some 1 ∧ vars[j]? = some x := by
  intro vec
  induction vec with
  | nil => intro vars x; simp [toList]
  | cons v vs ih =>
      intro vars x
      rcases vars with _ | ⟨y, ys⟩
      · simp [toList]
      -- an index is 0 or a successor
      rw [← Nat.or_exists_add_one]
      simp only [List.getElem?_cons_zero, List.getElem?_cons_succ, ← ih ys x, Option.some.injEq]
      by_cases hv : v = 1 <;> simp [toList, hv, eq_comm]

theorem idxWhere_mem (pred : Bnd → Bool) : ∀ (bs : List Bnd) (s j : Nat),
    j ∈ idxWhere pred s bs ↔ ∃ i : Nat, j = s + i ∧ ∃ b, bs[i]? = some b ∧ pred b = true := by
  intro bs
  induction bs with
  | nil => intro s j; simp [idxWhere]
  | cons b bs ih =>
      intro s j
      rw [← Nat.or_exists_add_one]
      simp only [List.getElem?_cons_zero, List.getElem?_cons_succ, Option.some.injEq, exists_eq_left', Nat.add_zero,
        ← Nat.add_assoc, Nat.add_right_comm s _ 1, ← ih (s + 1) j]
      by_cases hp : pred b = true <;> simp [idxWhere, hp]

/-- boolean and integer variable index sets partition the columns by whether bounds are (0,1) -/
theorem varIndices_partition (bs : List Bnd) (j : Nat) (b : Bnd) (h : bs[j]? = some b) :
    (j ∈ boolIdx bs ↔ (b.lo = 0 ∧ b.hi = 1)) ∧ (j ∈ intIdx bs ↔ ¬ (b.lo = 0 ∧ b.hi = 1)) ∧
    (j ∈ boolIdx bs ∨ j ∈ intIdx bs) ∧ ¬ (j ∈ boolIdx bs ∧ j ∈ intIdx bs) := by
  have hw (pred : Bnd → Bool) : j ∈ idxWhere pred 0 bs ↔ pred b = true := by
    rw [idxWhere_mem]
    exact ⟨fun ⟨i, e, c, hc, hp⟩ => by
        obtain rfl : i = j := by omega
        rw [h] at hc; cases hc; exact hp,
      fun hp => ⟨j, (Nat.zero_add j).symm, b, h, hp⟩⟩
  have hb : j ∈ boolIdx bs ↔ isBoolB b = true := hw _
  have hi : j ∈ intIdx bs ↔ isBoolB b = false := (hw _).trans (by simp)
  have hiff : isBoolB b = true ↔ (b.lo = 0 ∧ b.hi = 1) := by simp [isBoolB]
  rw [hb, hi]
  cases hbb : isBoolB b <;> simp [hbb, ← hiff]

/-- a constant column (bounds (0,0) or (1,1), as `assume()` leaves them or as the support column is declared) is an
    integer column: "boolean" means the bounds are exactly (0,1), not that the values lie in {0,1} -/
theorem const_column_is_integer (bs : List Bnd) (j : Nat) (b : Bnd) (h : bs[j]? = some b) (hc : b.lo = b.hi) :
    j ∈ intIdx bs ∧ ¬ j ∈ boolIdx bs := by
  have hp := varIndices_partition bs j b h
  have hnb : ¬ (b.lo = 0 ∧ b.hi = 1) := by intro hx; omega
  exact ⟨hp.2.1.2 hnb, fun hm => hnb (hp.1.1 hm)⟩

/-- indices beyond the columns are in neither set -/
theorem varIndices_range (bs : List Bnd) (j : Nat) (h : j ∈ boolIdx bs ∨ j ∈ intIdx bs) : j < bs.length := by
  have hw (pred : Bnd → Bool) (h : j ∈ idxWhere pred 0 bs) : j < bs.length := by
    obtain ⟨i, e, b, hb, _⟩ := (idxWhere_mem pred bs 0 j).1 h
    exact e ▸ (Nat.zero_add i).symm ▸ (List.getElem?_eq_some_iff.1 hb).1
  exact h.elim (hw _) (hw _)

/-- `A` and `b` are the row without, and its first entry -/
theorem splitRow_spec (c : Int) (r : List Int) : splitRow (c :: r) = (c, r) := rfl

/-- non-vacuity -/
example :
    construct [("x", ⟨0,1⟩), ("y", ⟨-2,3⟩), ("z", ⟨0,1⟩)] [("y", 2), ("q", 9)] .lower = [some 0, some 2, some 0] ∧
    fromListInt ["b", "a"] ["a", "b", "c"] = [2, 1, 0] ∧ toList [1, 0, 1] ["a", "b", "c"] = ["a", "c"] ∧
    boolIdx [⟨0,1⟩, ⟨-2,3⟩, ⟨0,1⟩] = [0, 2] ∧ intIdx [⟨0,1⟩, ⟨-2,3⟩, ⟨0,1⟩] = [1] := by decide

end Puan.C20
