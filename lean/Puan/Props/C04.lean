/-
  C04 — connectives have their documented truth functions: each constructor, then arbitrary nesting (`build_truth` against
  `truth`, under `Ok`), then the same through `plog.from_json` (`json_truth`) and `Imply.from_cicJE` (`cic_semantics`).
  Not / Imply / XNor go through `negate` as repaired for defect D1.
-/
import Puan.Lemmas.Ctor
import Puan.Lemmas.Json
import Puan.Model.Cic
import Puan.Props.C05
namespace Puan.C04
open Puan P

theorem orderArgs_perm (l : List (Bool × P)) : (orderArgs l).Perm (l.map (·.2)) := P.orderArgs_perm l

theorem sum_orderArgs (σ) (l : List (Bool × P)) : sumPt σ (orderArgs l) = sumPt σ (l.map (·.2)) := P.sum_orderArgs σ l

theorem goodL_orderArgs (σ) (l : List (Bool × P)) : GoodL σ (orderArgs l) ↔ GoodL σ (l.map (·.2)) :=
  goodL_perm σ (orderArgs_perm l)

/-- `All` is conjunction when its arguments are pairwise distinct (the threshold is `len(set(propositions))`) -/
theorem evalPt_mkAll (σ) (args : List (Bool × P)) (oid cls) (hd : distinctCount args = args.length)
    (hc : 0 ≤ sumPt σ (args.map (·.2)) ∧ sumPt σ (args.map (·.2)) ≤ args.length) :
    evalPt σ (mkAll args oid cls) = if sumPt σ (args.map (·.2)) = args.length then 1 else 0 := by
  have : (sgnOf args.length none * sumPt σ (args.map (·.2)) ≥ args.length) ↔ sumPt σ (args.map (·.2)) = args.length := by
    simp only [sgnOf, Option.getD_none]; split <;> omega
  simp only [mkAll, evalPt_mkAtLeast, sum_orderArgs, hd, this]

theorem evalPt_mkAny (σ) (args : List (Bool × P)) (oid cls) :
    evalPt σ (mkAny args oid cls) = if sumPt σ (args.map (·.2)) ≥ 1 then 1 else 0 := by
  simp only [mkAny, evalPt_mkAtLeast, sum_orderArgs, sgnOf_one, Int.one_mul]

theorem evalPt_mkAtMost (σ) (k : Int) (ks : List P) (var) :
    evalPt σ (mkAtMost k ks var) = if sumPt σ ks ≤ k then 1 else 0 := by
  have : (-1 * sumPt σ ks ≥ -k) ↔ (sumPt σ ks ≤ k) := by omega
  simp only [mkAtMost, evalPt_mkAtLeast, sgnOf_some, this]

theorem distinct_two (a b : P) (h : beq a b = false) : distinctCount [(false, a), (false, b)] = 2 := by
  simp [distinctCount, h]

theorem xor_halves_differ (ks : List P) : beq (mkAtLeast 1 ks none none) (mkAtMost 1 ks none) = false :=
  beq_mkAtLeast_mkAtMost ks

theorem evalPt_mkXor (σ) (args : List (Bool × P)) (oid cls) :
    evalPt σ (mkXor args oid cls) = if sumPt σ (args.map (·.2)) = 1 then 1 else 0 := by
  have : (sumPt σ (args.map (·.2)) ≥ 1 ∧ sumPt σ (args.map (·.2)) ≤ 1) ↔ sumPt σ (args.map (·.2)) = 1 := by omega
  simp only [mkXor_eq, evalPt_mkAtLeast, evalPt_mkAtMost, sum_orderArgs, sumPt, sgnOf_one, sgnOf_two, Int.one_mul,
    Int.add_zero, ite_add_ge_two, this]

theorem evalPt_setCond (σ) (p : P) (cid) : evalPt σ (setCond p cid) = evalPt σ p := P.evalPt_setCond σ p cid

theorem good_setCond (σ) (p : P) (cid) (h : Good σ p) : Good σ (setCond p cid) := ((goodInv σ).setCond p cid).2 h

theorem setCond_isLeaf (p : P) (cid) : (setCond p cid).isLeaf = p.isLeaf := P.setCond_isLeaf p cid

theorem evalPt_mkXNor (σ) (args : List (Bool × P)) (oid) (hg : GoodL σ (args.map (·.2))) :
    evalPt σ (mkXNor args oid) = if sumPt σ (args.map (·.2)) = 1 then 0 else 1 := by
  have hk := forall_orderArgs.2 (goodL_args.1 hg)
  have g1 : Good σ (mkAtLeast 1 (orderArgs args) none none) := ((goodInv σ).mkAtLeast ..).2 ⟨.inl rfl, hk⟩
  have g2 : Good σ (mkAtMost 1 (orderArgs args) none) := ((goodInv σ).mkAtMost _ _ none).2 ⟨.inr rfl, hk⟩
  have : (¬ sumPt σ (args.map (·.2)) ≥ 1 ∨ ¬ sumPt σ (args.map (·.2)) ≤ 1) ↔ ¬ sumPt σ (args.map (·.2)) = 1 := by omega
  -- `Any` of the two negated halves of `Xor`: `negate_compl` makes each its complement, and "not ≥ 1 or not ≤ 1" is "≠ 1"
  simp only [mkXNor, P.evalPt_setCond, evalPt_mkAny, List.map_cons, List.map_nil, sumPt,
    C05.negate_compl σ _ g1.1 g1.2 (mkAtLeast_isLeaf ..), C05.negate_compl σ _ g2.1 g2.2 (mkAtLeast_isLeaf ..),
    evalPt_mkAtLeast, evalPt_mkAtMost, sum_orderArgs, sgnOf_one, Int.one_mul, Int.add_zero, one_sub_ite, ite_add_ge_one, this]
  exact ite_not ..

theorem evalPt_mkNot (σ) (isAtom : Bool) (a : Bool × P) (hg : Good σ a.2) (hl : isAtom = false → a.2.isLeaf = false)
    (hb : evalPt σ a.2 = 0 ∨ evalPt σ a.2 = 1) :
    evalPt σ (mkNot isAtom a) = 1 - evalPt σ a.2 := by
  cases isAtom with
  | true =>
      have g : Good σ (mkAll [a] none) := ((goodInv σ).mkAll ..).2 (List.forall_mem_singleton.2 hg)
      rw [mkNot, if_pos rfl, C05.negate_compl σ _ g.1 g.2 (mkAtLeast_isLeaf ..)]
      simp only [mkAll, evalPt_mkAtLeast, sum_orderArgs, List.map_cons, List.map_nil, sumPt, distinctCount, sgnOf]
      rcases hb with h | h <;> simp [h]
  | false => exact C05.negate_compl σ _ hg.1 hg.2 (hl rfl)

theorem evalPt_mkImply (σ) (cAtom : Bool) (c d : Bool × P) (oid)
    (hg : Good σ c.2) (hl : cAtom = false → c.2.isLeaf = false)
    (hc : evalPt σ c.2 = 0 ∨ evalPt σ c.2 = 1) (hd : evalPt σ d.2 = 0 ∨ evalPt σ d.2 = 1) :
    evalPt σ (mkImply cAtom c d oid) = if evalPt σ c.2 = 0 ∨ evalPt σ d.2 = 1 then 1 else 0 := by
  simp only [mkImply, P.evalPt_setCond, evalPt_mkAny, List.map_cons, List.map_nil, sumPt, evalPt_mkNot σ cAtom c hg hl hc]
  rcases hc with h | h <;> rcases hd with h' | h' <;> simp [h, h']

-- the configurator classes are no plog connectives: 0 here, and `Ok` excludes them; C14 has their truth functions
-- (`ccAny_truth`, `ccXor_truth`, `stingy_truth`)
mutual
def truth (σ : String → Int) : Ast → Int
  | .var i _ => σ i
  | .str i => σ i
  | .atLeast v as _ sgn => if sgnOf v sgn * truthSum σ as ≥ v then 1 else 0
  | .atMost v as _ => if truthSum σ as ≤ v then 1 else 0
  | .all as _ => if truthSum σ as = as.length then 1 else 0
  | .any as _ => if truthSum σ as ≥ 1 then 1 else 0
  | .xor as _ _ => if truthSum σ as = 1 then 1 else 0
  | .xnor as _ => if truthSum σ as = 1 then 0 else 1
  | .imply c d _ => if truth σ c = 0 ∨ truth σ d = 1 then 1 else 0
  | .not a => 1 - truth σ a
  | .ccAny .. => 0
  | .ccXor .. => 0
  | .stingy .. => 0
def truthSum (σ : String → Int) : List Ast → Int
  | [] => 0
  | a :: as => truth σ a + truthSum σ as
end

mutual
/-- boolean atoms, legal signs, `All` over pairwise distinct arguments; plog classes only -/
def Ok (σ : String → Int) : Ast → Prop
  | .var i b => (b.lo = 0 ∧ b.hi = 1) ∧ (σ i = 0 ∨ σ i = 1)
  | .str i => σ i = 0 ∨ σ i = 1
  | .atLeast _ as _ sgn => (sgn = none ∨ sgn = some 1 ∨ sgn = some (-1)) ∧ OkL σ as
  | .atMost _ as _ => OkL σ as
  | .all as _ => distinctCount (Ast.buildL as) = as.length ∧ OkL σ as
  | .any as _ => OkL σ as
  | .xor as _ _ => OkL σ as
  | .xnor as _ => OkL σ as
  | .imply c d _ => Ok σ c ∧ Ok σ d
  | .not a => Ok σ a
  | .ccAny .. => False
  | .ccXor .. => False
  | .stingy .. => False
def OkL (σ : String → Int) : List Ast → Prop
  | [] => True
  | a :: as => Ok σ a ∧ OkL σ as
end

theorem OkL_iff (σ) : ∀ as : List Ast, OkL σ as ↔ ∀ a ∈ as, Ok σ a :=
  forall_of_rec Iff.rfl fun _ _ => Iff.rfl

theorem ok_args {σ} {a : Ast} (h : Ok σ a) : ∀ c ∈ a.args, Ok σ c := by
  cases a with
  | var | str => exact fun _ hc => nomatch hc
  | atLeast | all => exact (OkL_iff σ _).1 h.2
  | atMost | any | xor | xnor => exact (OkL_iff σ _).1 h
  | imply c d => exact List.forall_mem_cons.2 ⟨h.1, List.forall_mem_singleton.2 h.2⟩
  | not a => exact List.forall_mem_singleton.2 h
  | ccAny | ccXor | stingy => exact h.elim

theorem build_good (σ) : ∀ a, Ok σ a → Good σ a.build :=
  (goodInv σ).build (G := Ok σ) (sub := ok_args)
    (var := fun {i b} h => ⟨trivial, by have := h.1; have := h.2; simp only [InB]; omega⟩)
    (str := fun {i} h => ⟨trivial, by have : σ i = 0 ∨ σ i = 1 := h; simp only [InB]; omega⟩)
    (atLeast := fun h => sgnOf_pm _ h.1) (atMost := fun _ => .inr rfl) (xor := fun _ => .inr rfl) (ccXor := fun h => h.elim)

theorem build_01 (σ) (a : Ast) (h : Ok σ a) : evalPt σ a.build = 0 ∨ evalPt σ a.build = 1 := by
  cases a with
  | var => exact h.2
  | str => exact h
  | _ => exact evalPt01 σ _ ((Ast.build_isLeaf _).trans rfl)

theorem truthSum_eq_sum (σ) : ∀ as : List Ast, truthSum σ as = (as.map (truth σ)).sum :=
  sum_of_rec rfl fun _ _ => rfl

theorem truthSum_eq (σ) (as : List Ast) (h : ∀ a ∈ as, evalPt σ a.build = truth σ a) :
    sumPt σ ((Ast.buildL as).map (·.2)) = truthSum σ as := by
  rw [sumPt_eq, Ast.buildL_snd, List.map_map, truthSum_eq_sum]; exact congrArg _ (List.map_congr_left h)

/-- Models built with All, Any, AtLeast, AtMost, Xor/ExactlyOne, XNor, Imply and Not, arbitrarily nested over boolean
    leaves, evaluate like conjunction, disjunction, at-least-k (for the sign given or inferred: `truth`, `truth_atLeast_pos`),
    at-most-k, exactly-one, not-exactly-one, material implication and negation of their arguments' truth values. -/
theorem build_truth (σ : String → Int) (a : Ast) (h : Ok σ a) : evalPt σ a.build = truth σ a := by
  induction a using Ast.ind with | _ a ih =>
  have hk := fun c hc => ih c hc (ok_args h c hc)
  have g := fun c hc => build_good σ c (ok_args h c hc)
  have b := fun c hc => build_01 σ c (ok_args h c hc)
  have nl : ∀ c : Ast, c.isAtom = false → c.build.isLeaf = false := fun c hc => (Ast.build_isLeaf c).trans hc
  cases a with
  | var | str => rfl
  | atLeast v as oid sgn => simp only [Ast.build, truth, evalPt_mkAtLeast, sum_orderArgs, truthSum_eq σ as hk]
  | atMost v as oid => simp only [Ast.build, truth, evalPt_mkAtMost, sum_orderArgs, truthSum_eq σ as hk]
  | any as oid => simp only [Ast.build, truth, evalPt_mkAny, truthSum_eq σ as hk]
  | xor as oid e => simp only [Ast.build, truth, evalPt_mkXor, truthSum_eq σ as hk]
  | xnor as oid =>
      simp only [Ast.build, truth, evalPt_mkXNor σ (Ast.buildL as) oid (goodL_args.2 (Ast.forall_buildL.2 g)),
        truthSum_eq σ as hk]
  | all as oid =>
      have hr := sumPt_range σ ((Ast.buildL as).map (·.2)) (forall_args.2 (Ast.forall_buildL.2 b))
      have hl := Ast.buildL_length as
      rw [List.length_map] at hr
      simp only [Ast.build, truth]
      rw [evalPt_mkAll σ _ oid .all (by rw [h.1, hl]) hr, truthSum_eq σ as hk, hl]
  | imply c d oid =>
      have hc := hk c (by simp [Ast.args]); have hd := hk d (by simp [Ast.args])
      simp only [Ast.build, truth, ← hc, ← hd]
      exact evalPt_mkImply σ _ _ _ oid (g c (by simp [Ast.args])) (nl c) (b c (by simp [Ast.args])) (b d (by simp [Ast.args]))
  | not a =>
      simp only [Ast.build, truth, ← hk a (by simp [Ast.args])]
      exact evalPt_mkNot σ _ _ (g a (by simp [Ast.args])) (nl a) (b a (by simp [Ast.args]))
  | ccAny | ccXor | stingy => exact h.elim

/-- all that is proved of what one `Ok` expression builds -/
def Inv (σ : String → Int) (a : Ast) : Prop :=
  evalPt σ a.build = truth σ a ∧ Good σ a.build ∧ (truth σ a = 0 ∨ truth σ a = 1) ∧
  (a.isAtom = false → a.build.isLeaf = false)

def InvL (σ : String → Int) (as : List Ast) : Prop :=
  sumPt σ ((Ast.buildL as).map (·.2)) = truthSum σ as ∧ GoodL σ ((Ast.buildL as).map (·.2)) ∧
  (0 ≤ truthSum σ as ∧ truthSum σ as ≤ as.length) ∧ (Ast.buildL as).length = as.length

theorem build_inv (σ : String → Int) : ∀ a, Ok σ a → Inv σ a := fun a h =>
  ⟨build_truth σ a h, build_good σ a h, build_truth σ a h ▸ build_01 σ a h, (Ast.build_isLeaf a).trans⟩

theorem buildL_inv (σ : String → Int) : ∀ as, OkL σ as → InvL σ as := by
  intro as h
  have hk := (OkL_iff σ as).1 h
  have e := truthSum_eq σ as (fun a ha => build_truth σ a (hk a ha))
  have hl := Ast.buildL_length as
  have hr := sumPt_range σ ((Ast.buildL as).map (·.2)) (forall_args.2 (Ast.forall_buildL.2 fun a ha => build_01 σ a (hk a ha)))
  rw [e, List.length_map, hl] at hr
  exact ⟨e, goodL_args.2 (Ast.forall_buildL.2 fun a ha => build_good σ a (hk a ha)), hr, hl⟩

/-- `AtLeast(k, …)` without explicit sign is at-least-k for k ≥ 1 (for k ≤ 0 the constructor infers the sign −1) -/
theorem truth_atLeast_pos (σ) (k : Int) (as oid) (hk : k ≥ 1) :
    truth σ (.atLeast k as oid none) = if truthSum σ as ≥ k then 1 else 0 := by
  rw [truth, sgnOf_pos (by omega), Int.one_mul]

/-- non-vacuity: a nested expression, evaluated at a point -/
example :
    let a : Ast := .imply (.xor [.str "a", .str "b"] none false) (.not (.all [.str "c", .any [.str "a", .str "c"] none] (some "N"))) none
    let σ : String → Int := fun i => if i = "a" then 1 else 0
    truth σ a = 1 := by decide

mutual
/-- plog classes only (the JSON class map of `plog.from_json`) -/
def PlogExpr : Ast → Prop
  | .var .. => True
  | .str .. => True
  | .atLeast _ as _ _ => PlogExprL as
  | .atMost _ as _ => PlogExprL as
  | .all as _ => PlogExprL as
  | .any as _ => PlogExprL as
  | .xor as _ _ => PlogExprL as
  | .xnor as _ => PlogExprL as
  | .imply c d _ => PlogExpr c ∧ PlogExpr d
  | .not a => PlogExpr a
  | .ccAny .. => False
  | .ccXor .. => False
  | .stingy .. => False
def PlogExprL : List Ast → Prop
  | [] => True
  | a :: as => PlogExpr a ∧ PlogExprL as
end

mutual
/-- every `AtLeast` carries the sign the constructor would infer from its value (JSON written by hand has no sign) -/
def DefaultSigns : Ast → Prop
  | .var .. => True
  | .str .. => True
  | .atLeast v as _ sgn => (sgn = none ∨ sgn = some (sgnOf v none)) ∧ DefaultSignsL as
  | .atMost _ as _ => DefaultSignsL as
  | .all as _ => DefaultSignsL as
  | .any as _ => DefaultSignsL as
  | .xor as _ _ => DefaultSignsL as
  | .xnor as _ => DefaultSignsL as
  | .imply c d _ => DefaultSigns c ∧ DefaultSigns d
  | .not a => DefaultSigns a
  | .ccAny as _ _ => DefaultSignsL as
  | .ccXor as _ _ => DefaultSignsL as
  | .stingy as _ => DefaultSignsL as
def DefaultSignsL : List Ast → Prop
  | [] => True
  | a :: as => DefaultSigns a ∧ DefaultSignsL as
end

theorem userJsonL_eq_map : ∀ as : List Ast, Ast.userJsonL as = as.map Ast.userJson :=
  map_of_rec rfl fun _ _ => rfl

theorem viaJsonL_eq_map : ∀ as : List Ast, Ast.viaJsonL as = as.map Ast.viaJson :=
  map_of_rec rfl fun _ _ => rfl

/-- `plog.from_json` dispatches the JSON a user writes for an expression to the same constructor calls, up to what that JSON
    cannot carry (`viaJson`: variables come back boolean, explicit `AtLeast` signs are dropped; a `cc.Any` / `cc.Xor` /
    `StingyConfigurator` is written and read as its plog class) -/
theorem toAst_userJson (a : Ast) : PJ.toAst false a.userJson = some a.viaJson := by
  induction a using Ast.ind with | _ a ih =>
  have hl : PJ.toAstL false (Ast.userJsonL a.args) = some (Ast.viaJsonL a.args) := by
    rw [userJsonL_eq_map, viaJsonL_eq_map]; exact PJ.toAstL_map _ ih
  cases a
  case imply c d oid =>
    simp [Ast.userJson, Ast.viaJson, PJ.toAst, PJ.toAstOpt, ih c (by simp [Ast.args]), ih d (by simp [Ast.args])]
  case not a => simp [Ast.userJson, Ast.viaJson, PJ.toAst, PJ.toAstOpt, ih a (by simp [Ast.args])]
  case xor as oid e => simp only [Ast.args] at hl; cases e <;> simp [Ast.userJson, Ast.viaJson, PJ.toAst, hl]
  -- the ten constructors with one argument list: the JSON type names the constructor, `hl` reads the list
  all_goals simp only [Ast.args] at hl; simp [Ast.userJson, Ast.viaJson, PJ.toAst, hl]

theorem fromJson_userJson : ∀ a : Ast, PlogExpr a → PJ.toAst false a.userJson = some a.viaJson := fun a _ => toAst_userJson a

theorem fromJson_userJsonL : ∀ as : List Ast, PlogExprL as → PJ.toAstL false (Ast.userJsonL as) = some (Ast.viaJsonL as) :=
  fun as _ => by rw [userJsonL_eq_map, viaJsonL_eq_map]; exact PJ.toAstL_map as fun a _ => toAst_userJson a

theorem length_viaJsonL (as : List Ast) : (Ast.viaJsonL as).length = as.length := by
  rw [viaJsonL_eq_map, List.length_map]

mutual
theorem truth_viaJson (σ) : ∀ a : Ast, PlogExpr a → DefaultSigns a → truth σ a.viaJson = truth σ a
  | .var i b, _, _ => by simp only [Ast.viaJson, truth]
  | .str i, _, _ => by simp only [Ast.viaJson, truth]
  | .atLeast v as oid sgn, h, hs => by
      have ⟨s1, s2⟩ : (sgn = none ∨ sgn = some (sgnOf v none)) ∧ DefaultSignsL as := hs
      have : sgnOf v sgn = sgnOf v none := by rcases s1 with rfl | rfl <;> simp [sgnOf]
      simp only [Ast.viaJson, truth, truthSum_viaJson σ as h s2, this]
  | .atMost v as oid, h, hs => by
      simp only [Ast.viaJson, truth, truthSum_viaJson σ as h hs]
  | .all as oid, h, hs => by
      simp only [Ast.viaJson, truth, length_viaJsonL, truthSum_viaJson σ as h hs]
  | .any as oid, h, hs => by
      simp only [Ast.viaJson, truth, truthSum_viaJson σ as h hs]
  | .xor as oid e, h, hs => by
      simp only [Ast.viaJson, truth, truthSum_viaJson σ as h hs]
  | .xnor as oid, h, hs => by
      simp only [Ast.viaJson, truth, truthSum_viaJson σ as h hs]
  | .imply c d oid, h, hs => by
      have ⟨h1, h2⟩ : PlogExpr c ∧ PlogExpr d := h
      have ⟨s1, s2⟩ : DefaultSigns c ∧ DefaultSigns d := hs
      simp only [Ast.viaJson, truth, truth_viaJson σ c h1 s1, truth_viaJson σ d h2 s2]
  | .not a, h, hs => by
      simp only [Ast.viaJson, truth, truth_viaJson σ a h hs]
  | .ccAny .., h, _ | .ccXor .., h, _ | .stingy .., h, _ => h.elim
theorem truthSum_viaJson (σ) : ∀ as : List Ast, PlogExprL as → DefaultSignsL as → truthSum σ (Ast.viaJsonL as) = truthSum σ as
  | [], _, _ => rfl
  | a :: as, h, hs => by
      have ⟨h1, h2⟩ : PlogExpr a ∧ PlogExprL as := h
      have ⟨s1, s2⟩ : DefaultSigns a ∧ DefaultSignsL as := hs
      simp only [Ast.viaJsonL, truthSum, truth_viaJson σ a h1 s1, truthSum_viaJson σ as h2 s2]
end

/-- The model that `plog.from_json` builds from the JSON of an expression evaluates to the expression's truth function
    (signs as the constructor infers them, `Ok` after the trip through JSON). -/
theorem json_truth (σ : String → Int) (a : Ast) (h : PlogExpr a) (hs : DefaultSigns a) (hok : Ok σ a.viaJson) :
    ∃ a', PJ.toAst false a.userJson = some a' ∧ evalPt σ a'.build = truth σ a :=
  ⟨a.viaJson, fromJson_userJson a h, by rw [build_truth σ _ hok, truth_viaJson σ a h hs]⟩

/-- number of selected components -/
def sel (σ : String → Int) (ids : List String) : Nat := (ids.filter (fun i => σ i = 1)).length

/-- over expressions that read as tests, `truthSum` counts the tests that hold -/
theorem truthSum_map (σ) {α} {f : α → Ast} {g : α → Bool} (h : ∀ x, truth σ (f x) = if g x then 1 else 0) : ∀ l : List α,
    truthSum σ (l.map f) = ((l.filter g).length : Int)
  | [] => rfl
  | x :: l => by
      rw [List.map_cons, truthSum, h x, truthSum_map σ h l]
      cases hg : g x <;> simp [hg]; omega

theorem truth_all_map (σ) {α} {f : α → Ast} {g : α → Bool} (h : ∀ x, truth σ (f x) = if g x then 1 else 0) (l : List α) (oid) :
    truth σ (.all (l.map f) oid) = if l.all g then 1 else 0 := by
  rw [truth, truthSum_map σ h, List.length_map]
  exact ite_of_iff (by rw [Int.natCast_inj, List.length_filter_eq_length_iff, List.all_eq_true]) ..

theorem truth_any_map (σ) {α} {f : α → Ast} {g : α → Bool} (h : ∀ x, truth σ (f x) = if g x then 1 else 0) (l : List α) (oid) :
    truth σ (.any (l.map f) oid) = if l.any g then 1 else 0 := by
  rw [truth, truthSum_map σ h]
  exact ite_of_iff (by rw [List.any_eq_true, ← List.length_filter_pos_iff]; omega) ..

theorem truth_imply_test (σ) {c d : Ast} {p q : Bool} (oid) (hc : truth σ c = if p then 1 else 0)
    (hd : truth σ d = if q then 1 else 0) : truth σ (.imply c d oid) = if (!p || q) then 1 else 0 := by
  rw [truth, hc, hd]; cases p <;> cases q <;> rfl

theorem truthSum_comps (σ : String → Int) (hb : ∀ i, σ i = 0 ∨ σ i = 1) (m : Bool) (ids : List String) :
    truthSum σ (ids.map (Cic.comp m)) = sel σ ids :=
  truthSum_map σ (fun i => by
    have : truth σ (Cic.comp m i) = σ i := by cases m <;> rfl
    rcases hb i with h | h <;> simp [this, h]) ids

/-- the consequence of a rule, in words -/
def consSem (σ : String → Int) (d : Cic) : Bool :=
  match d.ruleType with
  | .requiresAll => sel σ d.comps == d.comps.length          -- all of them
  | .requiresAny => decide (sel σ d.comps ≥ 1)               -- at least one
  | .oneOrNone => decide (sel σ d.comps ≤ 1)                 -- at most one
  | .forbidsAll => sel σ d.comps == 0                        -- none
  | .requiresExclusively => sel σ d.comps == 1               -- exactly one

def subSem (σ : String → Int) (s : SubCond) : Bool :=
  if s.all then sel σ s.comps == s.comps.length else decide (sel σ s.comps ≥ 1)

/-- the condition of a rule: the sub-conditions combined by ALL / ANY (a single one stands for itself) -/
def condSem (σ : String → Int) (d : Cic) : Bool :=
  match d.subs with
  | [s] => subSem σ s
  | ss => if d.condAll then ss.all (subSem σ) else ss.any (subSem σ)

/-- what a rule dictionary means: consequence alone, or condition → consequence -/
def ruleSem (σ : String → Int) (d : Cic) : Bool :=
  if !d.hasCond || d.subs.isEmpty then consSem σ d else (!condSem σ d || consSem σ d)

theorem truth_consAst (σ) (hb : ∀ i, σ i = 0 ∨ σ i = 1) (m : Bool) (d : Cic) :
    truth σ (Cic.consAst m d) = if consSem σ d then 1 else 0 := by
  have hs := truthSum_comps σ hb m d.comps
  unfold Cic.consAst consSem
  cases d.ruleType <;> simp only [truth, hs, List.length_map, one_sub_ite, beq_iff_eq, decide_eq_true_eq] <;>
    exact ite_of_iff (by omega) ..

theorem truth_subAst (σ) (hb : ∀ i, σ i = 0 ∨ σ i = 1) (m : Bool) (s : SubCond) :
    truth σ (Cic.subAst m s) = if subSem σ s then 1 else 0 := by
  have hs := truthSum_comps σ hb m s.comps
  unfold Cic.subAst subSem
  cases s.all <;> simp only [Bool.false_eq_true, if_false, if_true, truth, hs, List.length_map, beq_iff_eq, decide_eq_true_eq] <;>
    exact ite_of_iff (by omega) ..

/-- The model `Imply.from_cicJE` builds (default component mapping, or one returning the id strings) evaluates on every
    0/1 assignment to what the rule says: REQUIRES_ALL / REQUIRES_ANY / ONE_OR_NONE / FORBIDS_ALL / REQUIRES_EXCLUSIVELY
    of the consequence's components, implied by the ALL / ANY combination of the sub-conditions if there is a condition. -/
theorem cic_semantics (σ : String → Int) (hb : ∀ i, σ i = 0 ∨ σ i = 1) (m : Bool) (d : Cic) (hok : Ok σ (d.toAst m)) :
    evalPt σ (d.toAst m).build = if ruleSem σ d then 1 else 0 := by
  rw [build_truth σ _ hok]
  have hc := truth_consAst σ hb m d
  have hsub := truth_subAst σ hb m
  unfold Cic.toAst ruleSem condSem
  cases d.hasCond
  · exact hc
  · rcases d.subs with _ | ⟨s, _ | ⟨s2, r⟩⟩
    · exact hc
    · exact truth_imply_test σ _ (hsub s) hc
    · cases d.condAll
      · exact truth_imply_test σ _ (truth_any_map σ hsub _ _) hc
      · exact truth_imply_test σ _ (truth_all_map σ hsub _ _) hc

/-- non-vacuity: a rule with two sub-conditions -/
example :
    let d : Cic := { id := some "R", ruleType := .oneOrNone, comps := ["x", "y"], consId := none, hasCond := true, condAll := true,
                     subs := [⟨true, ["a", "b"], none⟩, ⟨false, ["c"], some "S"⟩], condId := none }
    let σ : String → Int := fun i => if i = "z" then 0 else 1
    ruleSem σ d = false ∧ (∀ i, σ i = 0 ∨ σ i = 1) := by
  refine ⟨by decide, fun i => ?_⟩
  simp only; split <;> simp

end Puan.C04
