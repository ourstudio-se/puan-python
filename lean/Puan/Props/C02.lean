/-
  C02 — integer solutions of the polyhedron are exactly the satisfying configurations.  Soundness for models in solver-safe
  form (`Safe`: a negative sign only over variables) with no pre-fixed compound (`Free01`), at points inside the column bounds
  (`Box`); completeness for coherent models (`C01.Coherent`, which validation gives: `complete_validated`).
-/
import Puan.Props.C01
import Puan.Lemmas.SafeBuild
namespace Puan.C02
open Puan P

theorem box_of_agrees (x σ : String → Int) (p : P) : Agrees x σ p → InB σ p → Free01 p → Box x p := by
  induction p with
  | leaf i b => intro ha hb _; rw [Box, show x i = σ i from ha]; exact hb
  | node i b s v ks m ih =>
      intro ha hb hf
      have := evalPt_mem_bnd σ _ hb hf
      rw [← ha.1] at this
      exact ⟨this, (BoxL_iff x ks).2 fun k hk => ih k hk ((AgreesL_iff x σ ks).1 ha.2 k hk) ((InBs_iff σ ks).1 hb k hk)
        ((Free01L_iff ks).1 hf.2 k hk)⟩

theorem boxL_of_agrees (x σ : String → Int) : ∀ ks, AgreesL x σ ks → InBs σ ks → Free01L ks → BoxL x ks :=
  fun ks ha hb hf => (BoxL_iff x ks).2 fun k hk => box_of_agrees x σ k ((AgreesL_iff x σ ks).1 ha k hk) ((InBs_iff σ ks).1 hb k hk)
    ((Free01L_iff ks).1 hf k hk)

/-- No valid configuration is lost: a leaf assignment that makes the model true is completed, by the evaluated truth
    values, to an in-bounds integer point of the asserted polyhedron. -/
theorem complete (σ : String → Int) (i b s v ks m)
    (hc : C01.Coherent σ (.node i b s v ks m)) (hb : InB σ (.node i b s v ks m))
    (hs : SignOk (.node i b s v ks m)) (hf : Free01 (.node i b s v ks m))
    (htrue : evalPt σ (.node i b s v ks m) = 1) :
    ∃ x : String → Int, Box x (.node i b s v ks m) ∧ Agrees x σ (.node i b s v ks m) ∧
      ∀ r ∈ encode true (.node i b s v ks m), r.sat x := by
  have ha := C01.agrees_ext σ _ hc
  exact ⟨_, box_of_agrees _ σ _ ha hb hf, ha, (C01.enc_active_iff _ σ i b s v ks m ha hb hs hf).2 htrue⟩

/-- In solver-safe form the top node's column, when selected, is justified by the leaf part.  (This is `P.sel_le_eval`, which
    takes any `t`: a sub-proposition's column is justified in the same way.) -/
theorem sound (x : String → Int) (t : P) (hs : Safe t) (hf : Free01 t) (hb : Box x t)
    (hr : ∀ r ∈ encode false t, r.sat x) : x t.id ≤ evalPt x t :=
  sel_le_eval x t hs hf hb ((encode_sat x t).1 hr)

/-- In solver-safe form the leaf part of every in-bounds integer point of the asserted
    polyhedron makes the model true. -/
theorem sound_active (x : String → Int) (i b s v ks m)
    (hs : Safe (.node i b s v ks m)) (hf : Free01 (.node i b s v ks m)) (hb : Box x (.node i b s v ks m))
    (hr : ∀ r ∈ encode true (.node i b s v ks m), r.sat x) :
    evalPt x (.node i b s v ks m) = 1 := evalPt_of_active x i b s v ks m hs hf hb hr

/-- The solver-safe hypothesis is forced: a compound under a negatively signed parent
    admits a 0/1 point of the asserted polyhedron whose leaves falsify the model. -/
theorem unsafe_witness :
    let t : P := .node "T" ⟨0,1⟩ (-1) 0 [.node "B" ⟨0,1⟩ 1 1 [.leaf "a" ⟨0,1⟩] {}] {}
    let x : String → Int := fun i => if i = "a" then 1 else 0
    (encode true t).all (fun r => decide (r.sat x)) = true ∧ evalPt x t = 0 := by decide

/-- "Negation pushes inwards to re-establish this form": every constructor expression of the safe grammar builds a
    model in solver-safe form. -/
theorem expr_safe (a : Ast) (h : a.SafeExpr) : Safe a.build := (Ast.build_sb a h).1

/-- For an expression of the safe grammar, whatever an exact ILP solver returns is a valid configuration. -/
theorem expr_sound (a : Ast) (x : String → Int) (i b s v ks m) (h : a.SafeExpr) (hb : a.build = .node i b s v ks m)
    (hx : Box x a.build) (hr : ∀ r ∈ encode true a.build, r.sat x) :
    evalPt x a.build = 1 := by
  have hs := expr_safe a h
  have hf := Ast.build_free01 a h      -- constructors never pre-fix a sub-proposition
  rw [hb] at hs hf hx hr ⊢
  exact sound_active x i b s v ks m hs hf hx hr

/-- non-vacuity of `expr_safe` (the witness of seeded change C02-a): in the safe grammar, although it negates an
    "at most" over compounds twice -/
example :
    let a : Ast := .not (.xnor [.all [.str "a", .str "b"] none, .any [.str "c", .str "d"] none] none)
    a.SafeExpr ∧ Safe a.build := by
  intro a
  have h : a.SafeExpr := by simp [a, Ast.SafeExpr, Ast.SafeExprL]
  exact ⟨h, expr_safe a h⟩

/-- non-vacuity of `sound_active` -/
example :
    let t : P := .node "T" ⟨0,1⟩ 1 1 [.node "B" ⟨0,1⟩ (-1) (-1) [.leaf "a" ⟨0,1⟩, .leaf "c" ⟨0,3⟩] {}] {}
    let x : String → Int := fun i => if i = "B" then 1 else if i = "c" then 1 else 0
    (encode true t).all (fun r => decide (r.sat x)) = true ∧ evalPt x t = 1 := by decide

/-- `complete` for the models that `errors()` accepts (reference-free, no compound pre-fixed): validation gives the
    coherence hypothesis. -/
theorem complete_validated (σ : String → Int) (i b s v ks m)
    (he : errors (.node i b s v ks m) = []) (hr : C01.RefFree (.node i b s v ks m)) (hb : InB σ (.node i b s v ks m))
    (hs : SignOk (.node i b s v ks m)) (hf : Free01 (.node i b s v ks m))
    (htrue : evalPt σ (.node i b s v ks m) = 1) :
    ∃ x : String → Int, Box x (.node i b s v ks m) ∧ Agrees x σ (.node i b s v ks m) ∧
      ∀ r ∈ encode true (.node i b s v ks m), r.sat x :=
  complete σ i b s v ks m (C01.validated_coherent σ _ he hr) hb hs hf htrue

end Puan.C02
