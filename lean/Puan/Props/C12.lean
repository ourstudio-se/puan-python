/-
  C12 — bound tightening never cuts off a feasible point; row bounds are exact.  Tightening for declared bounds inside the
  default integer range (`InRange`: the masks of `tighten` start from ±int16); attainment for non-empty boxes (`WfB`).
-/
import Puan.Lemmas.Poly
import Puan.Lemmas.Comb
namespace Puan.C12
open Puan Poly

/-- declared bounds within the library's default integer range -/
def InRange (b : Bnd) : Prop := defaultMin ≤ b.lo ∧ b.hi ≤ defaultMax

/-- The tightened bounds of a column contain that column's value in every in-bounds integer solution. -/
theorem tightenCol_sound (p : Poly) (xs : List Int) (j : Nat) (x : Int) (b : Bnd)
    (hs : Sol p xs) (hx : xs[j]? = some x) (hb : p.bnds[j]? = some b) (hr : InRange b) :
    (tightenCol p j b).lo ≤ x ∧ x ≤ (tightenCol p j b).hi := by
  obtain ⟨hbox, hrows⟩ := hs
  have hw := inBox_get hbox hx hb
  unfold InRange at hr
  -- the new lower (upper) bound is the largest (smallest) of the candidates that the rows with a positive (negative)
  -- coefficient in column `j` give; each candidate is what its satisfied row leaves for that term (`slackQ_lb`, `slackQ_ub`)
  constructor
  · simp only [tightenCol]
    split
    · apply maxL_le _ _ _ (by omega)
      intro c hc
      simp only [lbCands, List.mem_filterMap] at hc
      obtain ⟨r, hr', hcr⟩ := hc
      split at hcr
      · rename_i hpos
        cases hcr
        exact slackQ_lb r hbox (nth_pos_get r.cs j (by omega)) hx hb hpos (hrows r hr')
      · cases hcr
    · exact hw.1
  · simp only [tightenCol]
    split
    · apply le_minL _ _ _ (by omega)
      intro c hc
      simp only [ubCands, List.mem_filterMap] at hc
      obtain ⟨r, hr', hcr⟩ := hc
      split at hcr
      · rename_i hneg
        cases hcr
        exact slackQ_ub r hbox (nth_pos_get r.cs j (by omega)) hx hb hneg (hrows r hr')
      · cases hcr
    · exact hw.2

/-- Tightening never widens the declared bounds. -/
theorem tightenCol_within (p : Poly) (j : Nat) (b : Bnd) :
    b.lo ≤ (tightenCol p j b).lo ∧ (tightenCol p j b).hi ≤ b.hi := by
  simp only [tightenCol]
  constructor <;> split <;> omega

/-- `tighten_column_bounds` is `tightenCol` column by column -/
theorem tighten_get (p : Poly) (j : Nat) : (tighten p)[j]? = (p.bnds[j]?).map (tightenCol p j) := by
  unfold tighten enum
  cases h : p.bnds[j]? with
  | none =>
      have hj : p.bnds.length ≤ j := List.getElem?_eq_none_iff.1 h
      simp [hj]
  | some b =>
      have hj : j < p.bnds.length := (List.getElem?_eq_some_iff.1 h).1
      have hb : p.bnds[j] = b := (List.getElem?_eq_some_iff.1 h).2
      simp [hj, hb]

/-- A lower bound above an upper bound is only reported when there is no solution. -/
theorem crossed_infeasible (p : Poly) (j : Nat) (b : Bnd) (hb : p.bnds[j]? = some b) (hr : InRange b)
    (hc : (tightenCol p j b).lo > (tightenCol p j b).hi) : ¬ ∃ xs, Sol p xs := by
  rintro ⟨xs, hs⟩
  have hj : j < xs.length := inBox_length hs.1 ▸ (List.getElem?_eq_some_iff.1 hb).1
  have := tightenCol_sound p xs j _ b hs (List.getElem?_eq_getElem hj) hb hr
  omega

/-- The reported row bounds enclose `row·x − b` over the variable box. -/
theorem rowBounds_enclose (r : PRow) (xs : List Int) (bs : List Bnd) (h : InBox xs bs) :
    rbLo r.cs bs - r.b ≤ dot r.cs xs - r.b ∧ dot r.cs xs - r.b ≤ rbHi r.cs bs - r.b := by
  have := dot_bounds r.cs xs bs h; omega

/-- Both ends are attained by points of the box: the row bounds are exactly the minimum and maximum. -/
theorem rowBounds_attained (r : PRow) (bs : List Bnd) (hw : WfB bs) :
    (∃ xs, InBox xs bs ∧ dot r.cs xs - r.b = rbLo r.cs bs - r.b) ∧
    (∃ xs, InBox xs bs ∧ dot r.cs xs - r.b = rbHi r.cs bs - r.b) :=
  have ⟨⟨xs, hx, ex⟩, ⟨ys, hy, ey⟩⟩ := rb_attained r.cs bs hw
  ⟨⟨xs, hx, by rw [ex]⟩, ⟨ys, hy, by rw [ey]⟩⟩

/-- `A_min` / `A_max`: entry by entry they bound the term `c·x` of every in-box point. -/
theorem aMinMax_entry : ∀ (cs xs : List Int) (bs : List Bnd) (j : Nat) (c x : Int), InBox xs bs →
    cs[j]? = some c → xs[j]? = some x →
    ∃ lo hi, (zipTerm tmin cs bs)[j]? = some lo ∧ (zipTerm tmax cs bs)[j]? = some hi ∧ lo ≤ c * x ∧ c * x ≤ hi := by
  intro cs xs bs j c x h hc hx
  have hj : j < bs.length := inBox_length h ▸ (List.getElem?_eq_some_iff.1 hx).1
  have hb := List.getElem?_eq_getElem hj
  have hw := inBox_get h hx hb
  have t := term_bounds c bs[j] x hw.1 hw.2
  have e := tminmax_eq c bs[j] (Int.le_trans hw.1 hw.2)
  exact ⟨_, _, zipTerm_get tmin hc hb, zipTerm_get tmax hc hb, e.1 ▸ t.1, e.2 ▸ t.2⟩

/-- The row sums of `A_min` are what `reducable_rows` compares with `b` (`sumMin`); those of `A_max` the matching upper sums. -/
theorem aMin_row_sum : ∀ (cs : List Int) (bs : List Bnd), (zipTerm tmin cs bs).sum = sumMin cs bs := by
  intro cs
  induction cs with
  | nil => intro bs; rfl
  | cons c cs ih => intro bs; cases bs with
    | nil => rfl
    | cons b bs => exact congrArg (tmin c b + ·) (ih bs)
theorem aMax_row_sum : ∀ (cs : List Int) (bs : List Bnd), (zipTerm tmax cs bs).sum = sumMax cs bs := by
  intro cs
  induction cs with
  | nil => intro bs; rfl
  | cons c cs ih => intro bs; cases bs with
    | nil => rfl
    | cons b bs => exact congrArg (tmax c b + ·) (ih bs)

/-- The per-row combination counts match a direct enumeration: `restrPts r.cs bs` lists, without repetition, exactly
    the restrictions of the in-box points to the row's non-zero columns, and `n_row_combinations` is its length. -/
theorem nRowComb_card (r : PRow) (bs : List Bnd) (hw : WfB bs) (hl : r.cs.length = bs.length) :
    (restrPts r.cs bs).Nodup ∧
    (∀ q, q ∈ restrPts r.cs bs ↔ ∃ xs, InBox xs bs ∧ restr r.cs xs = q) ∧
    ((restrPts r.cs bs).length : Int) = nComb r.cs bs :=
  -- `hl` plays no part: enumeration, count and `restr` all stop at the shorter of the two lists
  ⟨restrPts_nodup r.cs bs, mem_restrPts r.cs bs hw, restrPts_length r.cs bs hw⟩

/-- non-vacuity: a coefficient of magnitude 3, where the division rounds -/
example :
    let p : Poly := ⟨[⟨0, 5⟩, ⟨-2, 2⟩], [⟨4, [3, 1]⟩, ⟨-3, [-2, 0]⟩]⟩
    tighten p = [⟨0, 1⟩, ⟨-2, 2⟩] ∧ satisfied p [1, 1] = true := by decide

end Puan.C12
