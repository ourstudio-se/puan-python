/-
  C13 — priority compression yields strictly dominating weights.  Three layers: the bit allocation `oba` over an integer
  sequence (what puan-rspy computes); `shadow` and `prio` in key form (`shadowSpec`, `prioSpec`: key of a column = row of its
  last non-zero entry, then magnitude); the selection methods first / last / min / max and the final `ranking` of 'rank'.
  Not proved: that `ndint_compress` computes the key forms (1-D, 2-D on both axes, 3-D batches).  The driver answers with the
  model of the code's plumbing (`shadow2d`, `prio2d`) and with the key form, and both must equal the implementation's output.
-/
import Puan.Model.Prio
import Puan.Lemmas.Shadow
namespace Puan.C13
open Puan Prio

def sum : List Int → Int
  | [] => 0
  | x :: xs => x + sum xs

theorem sum_eq : ∀ l : List Int, sum l = l.sum :=
  fun l => (sum_of_rec (f := id) rfl (fun _ _ => rfl) l).trans (by rw [List.map_id])

theorem obaGo_eq_obaGoK (prev w total : Int) (xs : List Int) :
    obaGo prev w total xs = obaGoK ⟨0, prev⟩ w total (xs.map (Key.mk 0)) := by
  induction xs generalizing prev w total with
  | nil => rfl
  | cons x xs ih => simp [obaGo, obaGoK, ih]

theorem oba_eq_obaK (xs : List Int) : oba xs = obaK (xs.map (Key.mk 0)) := by
  cases xs <;> simp [oba, obaK, obaGo_eq_obaGoK]

theorem obaGo_cons (prev w total x : Int) (xs : List Int) :
    obaGo prev w total (x :: xs) =
      (if x = prev then w else total + 1) ::
        obaGo x (if x = prev then w else total + 1) (total + (if x = prev then w else total + 1)) xs := by
  simp [obaGo_eq_obaGoK, obaGoK_cons]

theorem oba_length (xs : List Int) : (oba xs).length = xs.length := by
  rw [oba_eq_obaK, obaK_length, List.length_map]

/-- `w0` is the weight of the current run (value `x`), `T` the sum of all weights emitted so far including `w0` -/
theorem run_step : ∀ (xs : List Int) (x w0 T : Int) (i : Nat) (a b wa wb : Int),
    (x :: xs)[i]? = some a → (x :: xs)[i+1]? = some b →
    (w0 :: obaGo x w0 T xs)[i]? = some wa → (w0 :: obaGo x w0 T xs)[i+1]? = some wb →
    (b = a → wb = wa) ∧ (b ≠ a → wb = (T - w0) + sum ((w0 :: obaGo x w0 T xs).take (i+1)) + 1)
  | [], x, w0, T, i, a, b, wa, wb, _, h2, _, _ => by simp at h2
  | y :: r, x, w0, T, 0, a, b, wa, wb, h1, h2, h3, h4 => by
      rw [obaGo_cons] at h4 ⊢
      simp only [List.getElem?_cons_zero, List.getElem?_cons_succ, Option.some.injEq] at h1 h2 h3 h4
      subst h1 h2 h3 h4
      simp only [List.take_succ_cons, List.take_zero, sum]
      constructor <;> intro e <;> simp only [e, if_true, if_false] <;> omega
  | y :: r, x, w0, T, i+1, a, b, wa, wb, h1, h2, h3, h4 => by
      rw [obaGo_cons] at h3 h4 ⊢
      have ih := run_step r y _ (T + (if y = x then w0 else T + 1)) i a b wa wb h1 h2 h3 h4
      refine ⟨ih.1, fun e => ?_⟩
      rw [ih.2 e]
      simp only [List.take_succ_cons, sum]
      omega

/-- weights are positive, so zeros and signs of the priorities can be restored -/
theorem oba_pos (xs : List Int) : ∀ w ∈ oba xs, 1 ≤ w := by
  rw [oba_eq_obaK]; exact obaK_pos _

/-- equal consecutive priorities get equal weights -/
theorem oba_equal (xs : List Int) (i : Nat) (a wa wb : Int)
    (h1 : xs[i]? = some a) (h2 : xs[i+1]? = some a) (h3 : (oba xs)[i]? = some wa) (h4 : (oba xs)[i+1]? = some wb) :
    wb = wa := by
  cases xs with
  | nil => simp at h1
  | cons x xs => exact (run_step xs x 1 1 i a a wa wb h1 h2 h3 h4).1 rfl

/-- a new priority gets 1 + the sum of the weights of all earlier (lower) priorities -/
theorem oba_dominates (xs : List Int) (i : Nat) (a b wa wb : Int)
    (h1 : xs[i]? = some a) (h2 : xs[i+1]? = some b) (hne : b ≠ a)
    (h3 : (oba xs)[i]? = some wa) (h4 : (oba xs)[i+1]? = some wb) :
    wb = sum ((oba xs).take (i+1)) + 1 ∧ wb > sum ((oba xs).take (i+1)) := by
  cases xs with
  | nil => simp at h1
  | cons x xs =>
      have := (run_step xs x 1 1 i a b wa wb h1 h2 h3 h4).2 hne
      simp only [oba] at *
      omega

/-- later priorities weigh at least as much -/
theorem oba_mono (xs : List Int) (i : Nat) (a b wa wb : Int)
    (h1 : xs[i]? = some a) (h2 : xs[i+1]? = some b)
    (h3 : (oba xs)[i]? = some wa) (h4 : (oba xs)[i+1]? = some wb) : wa ≤ wb := by
  by_cases e : b = a
  · subst e; have := oba_equal xs i b wa wb h1 h2 h3 h4; omega
  · -- `wb` is 1 + a sum of positive weights one of which is `wa`
    have hd := (oba_dominates xs i a b wa wb h1 h2 e h3 h4).1
    have := List.le_sum_map (f := id) (fun w hw => by have := oba_pos xs w (List.mem_of_mem_take hw); simpa using by omega)
      (List.mem_of_getElem? ((List.getElem?_take_of_succ).trans h3))
    rw [sum_eq] at hd
    simp only [List.map_id_fun, id_eq] at this
    omega

example : oba [1, 1, -2, -2, 3] = [1, 1, 3, 3, 9] ∧ oba [2, 2, -5, -5, -5, 7] = [1, 1, 3, 3, 3, 12] := by decide

/-- dominance: the sum runs over all strictly smaller keys of the list, one per column, with multiplicity -/
theorem weight_dominates (ks : List Key) (k : Key) (hk : k ∈ ks) :
    weightOf (table ks) k = 1 + keySumBelow (weightOf (table ks)) k ks := by
  rw [(weightOf_spec ks k hk).1, sumBelow_eq_keySum ks k (table ks) (weightOf_entry ks), table_keys,
    keySumBelow_perm _ k (sortK_perm ks)]

/-- weights are ordered like keys -/
theorem weight_strict_mono (ks : List Key) (j k : Key) (hj : j ∈ ks) (hk : k ∈ ks) (hlt : Key.lt j k) :
    weightOf (table ks) j < weightOf (table ks) k := by
  have := weight_dominates ks k hk
  have := keySumBelow_ge_of_mem ks k j ks (fun _ h => h) hj hlt
  omega

theorem shadowSpec_eq (m : Mat) :
    shadowSpec m = ((List.range (ncols m)).map (col m)).map
      (entry (table (((List.range (ncols m)).map (col m)).filterMap keyOf))) := rfl

/-- The clauses of C13 for the `shadow` weights, column by column (`cols` = the columns of the array, `ks` = their keys): zeros
    are kept, the sign is that of the column's last non-zero entry, the magnitude is a function of the key, strictly smaller
    keys get strictly smaller magnitudes, and each magnitude is 1 + the sum of those of all columns ranked strictly below. -/
theorem shadow_clauses (cols : List (List Int)) (c : List Int) (hc : c ∈ cols) :
    let ks := cols.filterMap keyOf
    let t := table ks
    (keyOf c = none → entry t c = 0) ∧
    (∀ k, keyOf c = some k →
        entry t c = Prio.sgnOf c * weightOf t k ∧ 1 ≤ weightOf t k ∧ (Prio.sgnOf c = 1 ∨ Prio.sgnOf c = -1) ∧
        weightOf t k = 1 + keySumBelow (weightOf t) k ks ∧
        (∀ c' ∈ cols, ∀ k', keyOf c' = some k' → Key.lt k' k → weightOf t k' < weightOf t k)) := by
  intro ks t
  refine ⟨fun h => by simp [entry, h], fun k hk => ?_⟩
  have hmem : k ∈ ks := List.mem_filterMap.2 ⟨c, hc, hk⟩
  refine ⟨by simp [entry, hk], (weightOf_spec ks k hmem).2, sgnOf_of_key c k hk, weight_dominates ks k hmem, ?_⟩
  intro c' hc' k' hk' hlt
  exact weight_strict_mono ks k' k (List.mem_filterMap.2 ⟨c', hc', hk'⟩) hmem hlt

/-- the dominance clause in the property's words: a weight strictly exceeds the sum of the weights of all lower priorities -/
theorem shadow_strictly_dominates (ks : List Key) (k : Key) (hk : k ∈ ks) :
    weightOf (table ks) k > keySumBelow (weightOf (table ks)) k ks := by
  have := weight_dominates ks k hk; omega

/-- the rank of a key: 1 + the number of distinct keys strictly below it -/
def rankOf (ks : List Key) (k : Key) : Int := 1 + (levOf (dedupK ks) k : Int)

/-- ranks start at 1 (that equal priorities get equal ranks needs no theorem: `rankOf` is a function of the key) -/
theorem rank_pos (ks : List Key) (k : Key) : 1 ≤ rankOf ks k := by unfold rankOf; omega

/-- 'prio' preserves the order: later rows above earlier rows, then magnitude -/
theorem rank_strict_mono (ks : List Key) (k' k : Key) (hk' : k' ∈ ks) (h : Key.lt k' k) : rankOf ks k' < rankOf ks k := by
  unfold rankOf
  have := levOf_lt (dedupK ks) k' k ((mem_dedupK ks k').2 hk') h
  omega

/-- the ranking is dense (`dedupK ks`: the keys of `ks`, each once) -/
theorem rank_dense (ks : List Key) (k : Key) :
    rankOf ks k = 1 + (((dedupK ks).filter (fun k' => decide (Key.lt k' k))).length : Int) ∧ (dedupK ks).Nodup ∧
    (∀ x, x ∈ dedupK ks ↔ x ∈ ks) :=
  ⟨rfl, nodup_dedupK ks, mem_dedupK ks⟩

theorem rank_le_distinct (ks : List Key) (k : Key) (hk : k ∈ ks) : rankOf ks k ≤ (dedupK ks).length := by
  -- k itself is not below k, so the filter misses at least one element
  have := List.length_filter_lt_length_iff_exists (p := fun k' => decide (Key.lt k' k)).2
    ⟨k, (mem_dedupK ks k).2 hk, by simpa using Key.not_lt_self k⟩
  unfold rankOf levOf
  omega

theorem prioSpec_eq (m : Mat) :
    prioSpec m = ((List.range (ncols m)).map (col m)).map (fun c =>
      match keyOf c with
      | none => 0
      | some k => Prio.sgnOf c * rankOf (((List.range (ncols m)).map (col m)).filterMap keyOf) k) := rfl

/-- 'first': 0 for a column of zeros, otherwise (`firstNZ_spec`) the first non-zero entry -/
theorem firstNZ_zeros : ∀ c : List Int, (∀ x ∈ c, x = 0) → firstNZ c = 0 := by
  intro c h
  rw [firstNZ, List.find?_eq_none.2 fun x hx => by simp [h x hx]]; rfl

theorem firstNZ_spec : ∀ (pre : List Int) (x : Int) (post : List Int), (∀ y ∈ pre, y = 0) → x ≠ 0 →
    firstNZ (pre ++ x :: post) = x := by
  intro pre x post hp hx
  have hn : pre.find? (· != 0) = none := List.find?_eq_none.2 fun y hy => by simp [hp y hy]
  simp [firstNZ, hn, hx]

theorem foldl_zip_zeros {β} (f : β → Nat × Int → β) (hf : ∀ acc i, f acc (i, 0) = acc) :
    ∀ (c : List Int) (is : List Nat) (acc : β), (∀ x ∈ c, x = 0) → (List.zip is c).foldl f acc = acc
  | [], is, acc, _ => by simp
  | v :: c, [], acc, _ => rfl
  | v :: c, i :: is, acc, h => by
      rw [List.zip_cons_cons, List.foldl_cons, h v List.mem_cons_self, hf,
        foldl_zip_zeros f hf c is acc fun y hy => h y (List.mem_cons_of_mem _ hy)]

/-- 'last': none for a column of zeros, otherwise the last non-zero entry (with its row) -/
theorem lastNZ_zeros (c : List Int) (h : ∀ x ∈ c, x = 0) : lastNZ c = none :=
  foldl_zip_zeros _ (fun _ _ => rfl) c _ none h

theorem lastNZ_spec (pre : List Int) (x : Int) (post : List Int) (hp : ∀ y ∈ post, y = 0) (hx : x ≠ 0) :
    lastNZ (pre ++ x :: post) = some (pre.length, x) := by
  have hr : List.range (pre ++ x :: post).length =
      List.range pre.length ++ pre.length :: (List.range post.length).map (pre.length + 1 + ·) := by
    rw [List.length_append, List.length_cons, List.range_add, List.range_succ_eq_map]; simp [Nat.add_assoc, Nat.add_comm 1]
  rw [lastNZ, hr, List.zip_append (by simp), List.foldl_append, List.zip_cons_cons, List.foldl_cons,
    foldl_zip_zeros _ (fun _ _ => rfl) post _ _ hp]
  simp [hx]

/-- 'min': 0 for a column of zeros, otherwise the smallest non-zero entry -/
theorem minNZ_spec (c : List Int) :
    ((∀ x ∈ c, x = 0) → minNZ c = 0) ∧
    ((∃ x ∈ c, x ≠ 0) → (minNZ c ∈ c ∧ minNZ c ≠ 0) ∧ ∀ y ∈ c, y ≠ 0 → minNZ c ≤ y) := by
  unfold minNZ
  constructor
  · intro h
    rw [List.filter_eq_nil_iff.2 fun x hx => by simp [h x hx]]
  · intro ⟨x, hx, hx0⟩
    cases hf : c.filter (· != 0) with
    | nil => exact absurd (List.filter_eq_nil_iff.1 hf x hx) (by simpa using hx0)
    | cons a as =>
        -- `as.foldl min a` is the minimum of the non-zero entries `a :: as`
        have ⟨h1, h2⟩ := List.min?_eq_some_iff.1 (List.min?_cons' (x := a) (xs := as))
        simp only [← hf, List.mem_filter, bne_iff_ne, ne_eq] at h1 h2
        exact ⟨h1, fun y hy hy0 => h2 y ⟨hy, hy0⟩⟩

/-- 'max': the largest entry of a non-empty column -/
theorem lmax_spec (x : Int) (xs : List Int) : lmax (x :: xs) ∈ x :: xs ∧ ∀ y ∈ x :: xs, y ≤ lmax (x :: xs) := by
  have he : lmax (x :: xs) = xs.foldl max x := by simp [lmax]
  rw [he]
  exact List.max?_eq_some_iff.1 List.max?_cons'

/-- the rank `ranking` gives to a value: `base` + the number of distinct smaller values -/
def rkOf (r : List Int) (x : Int) : Int :=
  (if r.foldl min (r.headD 0) > 0 then 1 else 0) + ((r.eraseDups.filter (· < x)).length : Int)

theorem ranking_eq (a : Int) (r : List Int) : ranking (a :: r) = (a :: r).map (rkOf (a :: r)) := by
  simp [ranking, rkOf]

/-- 'rank', final step: `ranking` is order-preserving -/
theorem ranking_strict_mono (r : List Int) (x y : Int) (hx : x ∈ r) (h : x < y) : rkOf r x < rkOf r y := by
  unfold rkOf
  have := List.filter_length_lt (fun d : Int => decide (d < x)) (fun d => decide (d < y)) r.eraseDups
    (by intro d hd; simp at hd ⊢; omega) ⟨x, List.mem_eraseDups.2 hx, by simpa using h, by simp⟩
  omega

theorem ranking_eq_iff (r : List Int) (x y : Int) (hx : x ∈ r) (hy : y ∈ r) : rkOf r x = rkOf r y ↔ x = y := by
  constructor
  · intro h
    rcases Int.lt_trichotomy x y with hlt | heq | hgt
    · have := ranking_strict_mono r x y hx hlt; omega
    · exact heq
    · have := ranking_strict_mono r y x hy hgt; omega
  · intro h; rw [h]

/-- `ranking` is dense; the base is 1 when every value is positive, else 0 -/
theorem ranking_dense (r : List Int) (x : Int) :
    rkOf r x = (if r.foldl min (r.headD 0) > 0 then 1 else 0) + ((r.eraseDups.filter (· < x)).length : Int) := rfl

/-- what `ndint_compress` returns for the selection methods and for 'rank', column by column (axis 0) -/
theorem compress0_selection (m : Mat) :
    compress0 "first" m = some (((List.range (ncols m)).map (col m)).map firstNZ) ∧
    compress0 "last" m = some (((List.range (ncols m)).map (col m)).map (fun c => match lastNZ c with | some (_, v) => v | none => 0)) ∧
    compress0 "min" m = some (((List.range (ncols m)).map (col m)).map minNZ) ∧
    compress0 "max" m = some (((List.range (ncols m)).map (col m)).map lmax) ∧
    compress0 "rank" m = some (ranking (prio2d m)) := ⟨rfl, rfl, rfl, rfl, rfl⟩

example : firstNZ [0, 3, 0, -2] = 3 ∧ lastNZ [0, 3, 0, -2, 0] = some (3, -2) ∧ minNZ [0, 3, 0, -2] = -2 ∧ lmax [0, 3, 0, -2] = 3 ∧
    ranking [5, -1, 5, 0] = [2, 0, 2, 1] ∧ ranking [4, 2, 4] = [2, 1, 2] := by decide

/-- an empty level between two used ones (the witness of seeded change C13-a) -/
example : shadowSpec [[1, 2, 0], [0, 0, 0], [0, 0, 2]] = [1, 2, 4] ∧
    shadowSpec [[1, -2, 3, 0], [0, 5, -5, 0], [2, 0, 0, 0]] = [3, 1, -1, 0] ∧
    prioSpec [[1, -2, 3, 0], [0, 5, -5, 0], [2, 0, 0, 0]] = [2, 1, -1, 0] := by decide

end Puan.C13
